/-
Model of `wtransport-proto/src/stream.rs`: the stream typestates' `read_frame`,
`read_frame_from_buffer`, `read_frame_async` and `validate_frame`.
-/
import WtVerif.Lemmas.Readers

/-- `ErrorCode` (the variants the readers produce) -/
inductive H3Err
  | datagram | noError | streamCreation | closedCriticalStream | frameUnexpected | frame
  | excessiveLoad | id | settings | missingSettings | requestRejected | message | decompression
  | bufferedStreamRejected | sessionGone
  deriving DecidableEq, Repr

namespace H3Err
/-- `ErrorCode::to_code` (values regenerated from `error.rs`) -/
def toCode : H3Err → Nat
  | .datagram => Generated.ERR_Datagram
  | .noError => Generated.ERR_NoError
  | .streamCreation => Generated.ERR_StreamCreation
  | .closedCriticalStream => Generated.ERR_ClosedCriticalStream
  | .frameUnexpected => Generated.ERR_FrameUnexpected
  | .frame => Generated.ERR_Frame
  | .excessiveLoad => Generated.ERR_ExcessiveLoad
  | .id => Generated.ERR_Id
  | .settings => Generated.ERR_Settings
  | .missingSettings => Generated.ERR_MissingSettings
  | .requestRejected => Generated.ERR_RequestRejected
  | .message => Generated.ERR_Message
  | .decompression => Generated.ERR_Decompression
  | .bufferedStreamRejected => Generated.ERR_BufferedStreamRejected
  | .sessionGone => Generated.ERR_SessionGone
end H3Err

/-- the four typestates that read frames -/
inductive Role
  | biRemote    -- `StreamBiRemoteH3`
  | biLocal     -- `StreamBiLocalH3`
  | uniRemote   -- `StreamUniRemoteH3` (control stream)
  | session     -- `StreamSession`
  deriving DecidableEq, Repr

namespace Ts

/-- `validate_frame` of each typestate; the state is `first_frame_done` (only `biRemote` reads
and sets it). Returns the new state and the verdict. -/
def validate (role : Role) (firstDone : Bool) (f : Frame) : Bool × Except H3Err Frame :=
  match role with
  | .biRemote =>
    (true,
      match f.kind with
      | .data => .ok f
      | .headers => .ok f
      | .settings => .error .frameUnexpected
      | .webtransport => if !firstDone then .ok f else .error .frame
      | .exercise _ => .ok f)
  | .biLocal | .session =>
    (firstDone,
      match f.kind with
      | .data => .ok f
      | .headers => .ok f
      | .settings => .error .frameUnexpected
      | .webtransport => .error .frameUnexpected
      | .exercise _ => .ok f)
  | .uniRemote =>
    (firstDone,
      match f.kind with
      | .data => .error .frameUnexpected
      | .headers => .error .frameUnexpected
      | .settings => .ok f
      | .webtransport => .error .frameUnexpected
      | .exercise _ => .ok f)

inductive Read
  | frame (f : Frame) (rest : Bytes)
  | needMore
  | err (e : H3Err)
  deriving DecidableEq, Repr

/-- `read_frame`: `loop { match Frame::read { Ok(Some) => validate, Ok(None) => None,
UnknownFrame => continue, InvalidSessionId => Id, PayloadTooBig => ExcessiveLoad } }`.
Terminates because every `continue` consumed at least one byte (`Frame.read_unknown_lt`). -/
def readFrame (role : Role) (firstDone : Bool) (bs : Bytes) : Bool × Read :=
  match h : Frame.read bs with
  | .frame f rest =>
    let (st, v) := validate role firstDone f
    match v with
    | .ok f => (st, .frame f rest)
    | .error e => (st, .err e)
  | .needMore => (firstDone, .needMore)
  | .unknown rest =>
    have : rest.length < bs.length := Frame.read_unknown_lt h
    readFrame role firstDone rest
  | .invalidSessionId => (firstDone, .err .id)
  | .payloadTooBig => (firstDone, .err .excessiveLoad)
termination_by bs.length

/-- `read_frame_from_buffer`: commit the child's offset only on `Some(frame)` -/
def readFrameFromBuffer (role : Role) (firstDone : Bool) (bs : Bytes) : Bool × Read × Nat :=
  match readFrame role firstDone bs with
  | (st, .frame f rest) => (st, .frame f rest, bs.length - rest.length)
  | (st, r) => (st, r, 0)

inductive AsyncRead
  | frame (f : Frame)
  | h3 (e : H3Err)
  | io (e : IoErr)
  | blocked
  deriving DecidableEq, Repr

/-- `read_frame_async`: the same loop over `Frame::read_async`; `UnexpectedFin` becomes
`H3(Frame)`, other I/O errors pass through. `fuel` bounds the number of loop turns by the
oracle length (every turn uses at least one oracle entry). -/
def readFrameAsync (role : Role) : Nat → Bool → Src → List Poll → Bool × AsyncRead × Src × List Poll
  | 0, st, s, o => (st, .blocked, s, o)
  | fuel + 1, st, s, o =>
    match Frame.readAsync.run s o with
    | .blocked s' => (st, .blocked, s', [])
    | .done (.ok f) s' o' =>
      let (st', v) := validate role st f
      match v with
      | .ok f => (st', .frame f, s', o')
      | .error e => (st', .h3 e, s', o')
    | .done (.parse .unknownFrame) s' o' => readFrameAsync role fuel st s' o'
    | .done (.parse .invalidSessionId) s' o' => (st, .h3 .id, s', o')
    | .done (.parse .payloadTooBig) s' o' => (st, .h3 .excessiveLoad, s', o')
    | .done (.io .unexpectedFin) s' o' => (st, .h3 .frame, s', o')
    | .done (.io e) s' o' => (st, .io e, s', o')

end Ts

namespace Ts

/-- progress of the typestate readers: a delivered frame consumed input -/
theorem readFrame_frame_lt {role : Role} : ∀ (n : Nat) {st st' : Bool} {bs rest : Bytes} {f : Frame},
    bs.length ≤ n → readFrame role st bs = (st', .frame f rest) → rest.length < bs.length := by
  intro n st st' bs rest f hn h
  clear hn
  fun_induction readFrame role st bs with
  | case1 x f0 rest0 hr => cases h; exact Frame.read_frame_lt hr
  | case4 x rest0 hr hlt ih => exact Nat.lt_trans (ih h) hlt
  | _ => cases h

end Ts
