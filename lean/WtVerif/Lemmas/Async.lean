/-
Chunk-insensitivity of the asynchronous readers: whatever the oracle answers (any chunking,
any pattern of `Pending`), a completed run yields the one-shot result on the bytes of the
source and leaves exactly the one-shot remainder there; an exhausted oracle yields `blocked`
and has only consumed a prefix of the source.

Both primitives (`GetVarint`, `GetBuffer`) are specified against the one-shot decoder `d` of the
unit they read (`Varint.dec`, or "take `n` bytes"); everything about `async fn` readers is then
proved once, for an await of a unit with an arbitrary prefix decoder `d`.
-/
import WtVerif.AsyncRead
import WtVerif.Lemmas.Varint

open Varint

/-! ### `poll_read` facts -/

/-- one `poll_read(buf)` with `buf.len() = n > 0`: at least one byte and at most `n`, taken off the front of the
source; an end of the source only when no byte is left -/
theorem pollRead_spec (s : Src) (n : Nat) (p : Poll) (hn : 0 < n) :
    match s.pollRead n p with
    | (s', .data bs) => bs ≠ [] ∧ bs.length ≤ n ∧ s.rest = bs ++ s'.rest ∧ s'.tail = s.tail
    | (s', .eof) => s' = s ∧ s.rest = [] ∧ s.tail = .fin
    | (s', .err e) => s' = s ∧ s.rest = [] ∧ ((s.tail = .reset ∧ e = .reset) ∨ (s.tail = .lost ∧ e = .notConnected))
    | (s', .pend) => s' = s := by
  cases p with
  | pending => rfl
  | give k =>
    simp only [Src.pollRead]
    cases hr : s.rest with
    | nil => cases ht : s.tail <;> simp
    | cons x xs =>
      simp only [List.length_cons, ne_eq, List.take_eq_nil_iff, List.length_take, List.take_append_drop, and_true,
        reduceCtorEq, or_false]
      omega

/-- how an end of the source maps to the I/O error of the primitive that hit it -/
def tailErr (t : Tail) (atStart : Bool) : Option IoErr :=
  match t with
  | .fin => some (if atStart then .immediateFin else .unexpectedFin)
  | .reset => some .reset
  | .lost => some .notConnected
  | .open_ => none

theorem tailErr_eq_some {t : Tail} {atStart : Bool} {e : IoErr} (h : tailErr t atStart = some e) :
    (t = .fin ∧ e = if atStart then .immediateFin else .unexpectedFin) ∨ (t = .reset ∧ e = .reset) ∨
    (t = .lost ∧ e = .notConnected) := by
  cases t <;> simp only [tailErr, Option.some.injEq, reduceCtorEq] at h <;> simp [← h]

/-! ### the primitives -/

/-- What a primitive future may produce, given the one-shot result `r` on all the bytes it holds and can still
get, whether there are any such bytes, what is left in the source and how the source ends: a value is the one-shot
value and the source keeps the one-shot remainder; an end of the source is reported only where the one-shot
decoder needs more; a run cut short has taken a prefix off the source. -/
def PrimOutSpec {β : Type} (r : Option (β × Bytes)) (nonempty : Bool) (rest : Bytes) (t : Tail) : PrimOut β → Prop
  | .done v s' _ => r = some (v, s'.rest) ∧ s'.tail = t
  | .eof pr s' _ => r = none ∧ t = .fin ∧ s'.tail = t ∧ s'.rest = [] ∧ pr = nonempty
  | .err e s' _ => r = none ∧ s'.tail = t ∧ s'.rest = [] ∧ ((t = .reset ∧ e = .reset) ∨ (t = .lost ∧ e = .notConnected))
  | .blocked s' => ∃ c, rest = c ++ s'.rest ∧ s'.tail = t

/-- Specification of a primitive future that holds `buf` and reads from `s`, in terms of the one-shot
decoder `d` of its unit. -/
def PrimSpec {β : Type} (d : Bytes → Option (β × Bytes)) (buf : Bytes) (s : Src) (out : PrimOut β) : Prop :=
  PrimOutSpec (d (buf ++ s.rest)) (!(buf ++ s.rest).isEmpty) s.rest s.tail out

variable {β : Type} {d : Bytes → Option (β × Bytes)}

/-- only a run cut short looks at what is left in the source, and a longer source only lengthens the prefix taken -/
theorem PrimOutSpec.mono {r : Option (β × Bytes)} {ne : Bool} {rest rest' : Bytes} {t : Tail} {out : PrimOut β}
    (h : PrimOutSpec r ne rest' t out) (bs : Bytes) (hc : rest = bs ++ rest') : PrimOutSpec r ne rest t out := by
  cases out with
  | blocked s' => obtain ⟨c, hc', ht⟩ := h; exact ⟨bs ++ c, by rw [hc, hc', List.append_assoc], ht⟩
  | _ => exact h

/-- transport along one `poll_read` that handed over `bs` -/
theorem PrimSpec.data {buf bs : Bytes} {s s1 : Src} {out : PrimOut β}
    (hrest : s.rest = bs ++ s1.rest) (htail : s1.tail = s.tail)
    (h : PrimSpec d (buf ++ bs) s1 out) : PrimSpec d buf s out := by
  rw [PrimSpec, List.append_assoc, ← hrest, htail] at h
  exact h.mono bs hrest

/-- One `poll_read` of a primitive that cannot complete on what it holds (`d buf = none`) and asks for
`n > 0` more bytes: its outcome meets the specification if the rest of the run does. -/
theorem PrimSpec.poll {buf : Bytes} {s : Src} {n : Nat} {p : Poll} {ps : List Poll} (hn : 0 < n) (hnone : d buf = none)
    {run : Bytes → Src → PrimOut β}
    (hdata : ∀ bs s1, bs ≠ [] → bs.length ≤ n → PrimSpec d (buf ++ bs) s1 (run (buf ++ bs) s1))
    (hpend : PrimSpec d buf s (run buf s)) :
    PrimSpec d buf s (match s.pollRead n p with
      | (s', .data bs) => run (buf ++ bs) s'
      | (s', .eof) => .eof (!buf.isEmpty) s' ps
      | (s', .err e) => .err e s' ps
      | (s', .pend) => run buf s') := by
  have h := pollRead_spec s n p hn
  generalize s.pollRead n p = r at h ⊢
  obtain ⟨s1, ret⟩ := r
  cases ret with
  | data bs => exact PrimSpec.data h.2.2.1 h.2.2.2 (hdata bs s1 h.1 h.2.1)
  | eof =>
    obtain ⟨rfl, hnil, hfin⟩ := h
    exact ⟨by rw [hnil, List.append_nil, hnone], hfin, rfl, hnil, by rw [hnil, List.append_nil]⟩
  | err e =>
    obtain ⟨rfl, hnil, hcase⟩ := h
    exact ⟨by rw [hnil, List.append_nil, hnone], rfl, hnil, hcase⟩
  | pend => rw [show s1 = s from h]; exact hpend

/-- the one-shot decoder of `GetBuffer`'s unit: the first `n` bytes -/
def takeN (n : Nat) (bs : Bytes) : Option (Bytes × Bytes) :=
  if bs.length < n then none else some (bs.take n, bs.drop n)

theorem runGB_sound (n : Nat) (o : List Poll) : ∀ (buf : Bytes) (s : Src),
    buf.length ≤ n → PrimSpec (takeN n) buf s (runGB n buf s o) := by
  have done : ∀ (buf : Bytes) (s : Src) (o' : List Poll), buf.length ≤ n → ¬ buf.length < n →
      PrimSpec (takeN n) buf s (.done buf s o') := by
    intro buf s o' hle hge
    have hl : buf.length = n := by omega
    refine ⟨?_, rfl⟩
    rw [takeN, if_neg (by simp; omega), ← hl, List.take_left' rfl, List.drop_left' rfl]
  induction o with
  | nil =>
    intro buf s hle
    simp only [runGB]
    split
    · exact ⟨[], by simp, rfl⟩
    · exact done buf s [] hle ‹_›
  | cons p ps ih =>
    intro buf s hle
    simp only [runGB]
    split
    · rename_i hlt
      exact PrimSpec.poll (run := fun b s => runGB n b s ps) (by omega) (by simp [takeN, hlt])
        (fun bs s1 _ hlen => ih _ s1 (by simp; omega)) (ih buf s hle)
    · exact done buf s _ hle ‹_›

/-- invariant of `GetVarint`: the buffer never holds more than the varint needs -/
def BufInv (buf : Bytes) : Prop := ∀ b0 r, buf = b0 :: r → buf.length ≤ parseSize b0

theorem bufInv_nil : BufInv [] := by intro b0 r h; cases h

theorem gvWant_nil : gvWant [] = some 1 := rfl
theorem gvWant_cons_lt (b0 : UInt8) (r : Bytes) (h : (b0 :: r).length < parseSize b0) :
    gvWant (b0 :: r) = some (parseSize b0 - (b0 :: r).length) := by
  simp only [gvWant]; rw [if_pos h]
theorem gvWant_cons_ge (b0 : UInt8) (r : Bytes) (h : ¬ (b0 :: r).length < parseSize b0) :
    gvWant (b0 :: r) = none := by
  simp only [gvWant]; rw [if_neg h]

def GVSpec (buf : Bytes) (s : Src) : PrimOut Nat → Prop
  | .done v s' _ => dec (buf ++ s.rest) = some (v, s'.rest) ∧ s'.tail = s.tail
  | .eof pr s' _ => dec (buf ++ s.rest) = none ∧ s.tail = .fin ∧ s'.tail = s.tail ∧ s'.rest = [] ∧
      pr = !(buf ++ s.rest).isEmpty
  | .err e s' _ => dec (buf ++ s.rest) = none ∧ s'.tail = s.tail ∧ s'.rest = [] ∧
      ((s.tail = .reset ∧ e = .reset) ∨ (s.tail = .lost ∧ e = .notConnected))
  | .blocked s' => ∃ c, s.rest = c ++ s'.rest ∧ s'.tail = s.tail

theorem GVSpec_iff (buf : Bytes) (s : Src) (out : PrimOut Nat) : GVSpec buf s out ↔ PrimSpec dec buf s out := by
  cases out <;> exact Iff.rfl

theorem runGV_sound (o : List Poll) : ∀ (buf : Bytes) (s : Src),
    BufInv buf → GVSpec buf s (runGV buf s o) := by
  -- what `GetVarint` asks for: a first byte, then exactly what the first byte announces
  have want : ∀ buf : Bytes, BufInv buf →
      (gvWant buf = none ∧ ∀ x, dec (buf ++ x) = some (exactVal buf, x)) ∨
      (∃ n, gvWant buf = some n ∧ 0 < n ∧ dec buf = none ∧ ∀ bs, bs ≠ [] → bs.length ≤ n → BufInv (buf ++ bs)) := by
    intro buf hinv
    match buf, hinv with
    | [], _ =>
      refine Or.inr ⟨1, gvWant_nil, by omega, rfl, fun bs _ hlen b0 r heq => ?_⟩
      rw [List.nil_append] at heq ⊢
      subst heq
      have := parseSize_pos b0
      simp only [List.length_cons] at hlen ⊢; omega
    | b0 :: rb, hinv =>
      have hle := hinv b0 rb rfl
      by_cases hlt : (b0 :: rb).length < parseSize b0
      · refine Or.inr ⟨_, gvWant_cons_lt b0 rb hlt, by omega, dec_short b0 rb hlt, fun bs _ hlen c0 r heq => ?_⟩
        rw [List.cons_append, List.cons.injEq] at heq
        rw [← heq.1]
        simp only [List.length_cons, List.length_append] at hlen hlt ⊢; omega
      · exact Or.inl ⟨gvWant_cons_ge b0 rb hlt, fun x => dec_of_full b0 rb x (by omega)⟩
  induction o with
  | nil =>
    intro buf s hinv
    rw [GVSpec_iff]
    rcases want buf hinv with ⟨hw, hd⟩ | ⟨n, hw, _⟩ <;> simp only [runGV, hw]
    · exact ⟨hd _, rfl⟩
    · exact ⟨[], by simp⟩
  | cons p ps ih =>
    intro buf s hinv
    rw [GVSpec_iff]
    rcases want buf hinv with ⟨hw, hd⟩ | ⟨n, hw, hn, hnone, hstep⟩ <;> simp only [runGV, hw]
    · exact ⟨hd _, rfl⟩
    · exact PrimSpec.poll (run := fun b s => runGV b s ps) hn hnone
        (fun bs s1 hne hlen => (GVSpec_iff _ _ _).1 (ih _ s1 (hstep bs hne hlen))) ((GVSpec_iff _ _ _).1 (ih buf s hinv))

/-! ### sequential composition: every `async fn` reader -/

variable {ε α : Type}

/-- What a run of an `async fn` reader may produce, given the one-shot result `r` of the same reader on the bytes
of the source, what is left in the source and how it ends. -/
def OutSpec (r : SyncRes ε α) (rest : Bytes) (t : Tail) : Out ε α → Prop
  | .done (.ok a) s' _ => r = .ok a s'.rest ∧ s'.tail = t
  | .done (.parse e) s' _ => r = .parse e s'.rest ∧ s'.tail = t
  | .done (.io e) s' _ => ∃ atStart, r = .needMore atStart ∧ tailErr t atStart = some e ∧ s'.rest = [] ∧ s'.tail = t
  | .blocked s' => ∃ c, rest = c ++ s'.rest ∧ s'.tail = t

/-- What a run of an `async fn` reader is allowed to produce, in terms of the one-shot meaning
of the same reader on the bytes of the source. -/
def ProgSpec (p : Prog ε α) (s : Src) (out : Out ε α) : Prop := OutSpec (p.sync s.rest) s.rest s.tail out

theorem OutSpec.mono {r : SyncRes ε α} {rest rest' : Bytes} {t : Tail} {out : Out ε α}
    (h : OutSpec r rest' t out) (bs : Bytes) (hc : rest = bs ++ rest') : OutSpec r rest t out := by
  match out, h with
  | .blocked s', ⟨c, hc', ht⟩ => exact ⟨bs ++ c, by rw [hc, hc', List.append_assoc], ht⟩
  | .done (.ok _) _ _, h => exact h
  | .done (.parse _) _ _, h => exact h
  | .done (.io _) _ _, h => exact h

/-- an await of a unit with one-shot decoder `d`, then the continuation `k`: the one-shot meaning
(`Prog.sync` at `.varint` and `.buffer` is this, with `dec` and `takeN n`) -/
def awaitSync (d : Bytes → Option (β × Bytes)) (first : Bool) (k : β → Prog ε α) (bs : Bytes) : SyncRes ε α :=
  match d bs with
  | none => .needMore (first && bs.isEmpty)
  | some (a, r) => (k a).sync r

/-- … and the run, given the outcome of the unit's primitive future -/
def awaitRun (first : Bool) (k : β → Prog ε α) : PrimOut β → Out ε α
  | .done v s' o' => (k v).run s' o'
  | .eof pr s' o' => .done (.io (finErr first pr)) s' o'
  | .err e s' o' => .done (.io e) s' o'
  | .blocked s' => .blocked s'

theorem Prog.sync_varint (first : Bool) (k : Nat → Prog ε α) :
    (Prog.varint first k).sync = awaitSync dec first k := by
  funext bs; simp only [Prog.sync, awaitSync]; cases dec bs <;> rfl

theorem Prog.sync_buffer (first : Bool) (n : Nat) (k : Bytes → Prog ε α) :
    (Prog.buffer first n k).sync = awaitSync (takeN n) first k := by
  funext bs; simp only [Prog.sync, awaitSync, takeN]; split <;> rfl

theorem Prog.run_varint (first : Bool) (k : Nat → Prog ε α) (s : Src) (o : List Poll) :
    (Prog.varint first k).run s o = awaitRun first k (runGV [] s o) := by
  simp only [Prog.run]; cases runGV [] s o <;> rfl

theorem Prog.run_buffer (first : Bool) (n : Nat) (k : Bytes → Prog ε α) (s : Src) (o : List Poll) :
    (Prog.buffer first n k).run s o = awaitRun first k (runGB n [] s o) := by
  simp only [Prog.run]; cases runGB n [] s o <;> rfl

/-- `d` reads a prefix `c` off its input, whatever follows `c`, and asks for more on every proper prefix of `c` -/
def PrefixDecoder (d : Bytes → Option (β × Bytes)) : Prop :=
  ∀ {bs a r}, d bs = some (a, r) →
    ∃ c, bs = c ++ r ∧ (∀ x, d (c ++ x) = some (a, x)) ∧ ∀ k, k < c.length → d (c.take k) = none

theorem takeN_prefixDecoder (n : Nat) : PrefixDecoder (takeN n) := by
  intro bs a r h
  unfold takeN at h
  split at h
  · cases h
  · rename_i hge
    cases h
    have hl : (bs.take n).length = n := by simp; omega
    refine ⟨bs.take n, (List.take_append_drop n bs).symm, fun x => ?_, fun k hk => ?_⟩
    · rw [takeN, if_neg (by simp; omega), List.take_left' hl, List.drop_left' hl]
    · rw [takeN, if_pos (by simp only [List.length_take] at hk ⊢; omega)]

/-- the await of a primitive that meets `PrimSpec d`, followed by a continuation that meets `ProgSpec`,
meets `ProgSpec` (`p` is `.varint first k` or `.buffer first n k`, `r` the outcome of its primitive) -/
theorem ProgSpec.await {p : Prog ε α} {first : Bool} {k : β → Prog ε α} {s : Src} {r : PrimOut β}
    (hsync : p.sync = awaitSync d first k) (hpd : PrefixDecoder d)
    (hr : PrimSpec d [] s r) (ih : ∀ v s' o', ProgSpec (k v) s' ((k v).run s' o')) :
    ProgSpec p s (awaitRun first k r) := by
  cases r with
  | done v s' o' =>
    obtain ⟨hd, ht⟩ := hr
    rw [List.nil_append] at hd
    obtain ⟨c0, hc0, _⟩ := hpd hd
    -- the continuation's result, for a source that is the consumed unit longer
    have h := ih v s' o'
    rw [ProgSpec, ht] at h
    rw [ProgSpec, hsync, awaitSync, hd]
    exact h.mono c0 hc0
  | eof pr s' o' =>
    obtain ⟨hd, hfin, ht, hnil, hpr⟩ := hr
    rw [List.nil_append] at hd hpr
    refine ⟨first && s.rest.isEmpty, by rw [hsync, awaitSync, hd], ?_, hnil, ht⟩
    rw [hfin, hpr]; simp only [tailErr, finErr, Bool.not_not]
  | err e s' o' =>
    obtain ⟨hd, ht, hnil, hcase⟩ := hr
    rw [List.nil_append] at hd
    refine ⟨first && s.rest.isEmpty, by rw [hsync, awaitSync, hd], ?_, hnil, ht⟩
    rcases hcase with ⟨h1, h2⟩ | ⟨h1, h2⟩ <;> simp [tailErr, h1, h2]
  | blocked s' => exact hr

/-- **Chunk-insensitivity.** For every reader, source and oracle. -/
theorem Prog.run_sound (p : Prog ε α) : ∀ (s : Src) (o : List Poll), ProgSpec p s (p.run s o) := by
  induction p with
  | ret a => intro s o; exact ⟨rfl, rfl⟩
  | fail e => intro s o; exact ⟨rfl, rfl⟩
  | varint first k ih =>
    intro s o
    rw [Prog.run_varint]
    exact ProgSpec.await (Prog.sync_varint first k) dec_consumed
      ((GVSpec_iff _ _ _).1 (runGV_sound o [] s bufInv_nil)) ih
  | buffer first n k ih =>
    intro s o
    rw [Prog.run_buffer]
    exact ProgSpec.await (Prog.sync_buffer first n k) (takeN_prefixDecoder n)
      (runGB_sound n o [] s (Nat.zero_le n)) ih

theorem skipProg_sync (k : Prog ε α) : ∀ (n : Nat) (bs : Bytes),
    (skipProg n k).sync bs = if bs.length < n then .needMore false else k.sync (bs.drop n) := by
  intro n
  induction n using Nat.strongRecOn with
  | _ n ih =>
    intro bs
    unfold skipProg
    split
    · rename_i h0; subst h0; simp
    · -- one chunk of `m = min n 256` bytes, then the rest of the payload
      generalize hm : min n 256 = m
      have : 0 < m ∧ m ≤ n := by omega
      simp only [Prog.sync, Bool.false_and, ih (n - m) (by omega), List.length_drop, List.drop_drop,
        show m + (n - m) = n by omega]
      by_cases h1 : bs.length < m
      · rw [if_pos h1, if_pos (by omega)]
      · rw [if_neg h1]
        by_cases h2 : bs.length < n
        · rw [if_pos h2, if_pos (by omega)]
        · rw [if_neg h2, if_neg (by omega)]

/-! ### readers are prefix decoders -/

/-- the reader completed (value or parse error) leaving exactly `rest` -/
def SyncRes.LeavesRest (r : SyncRes ε α) (rest : Bytes) : Prop :=
  match r with
  | .ok _ rest' => rest' = rest
  | .parse _ rest' => rest' = rest
  | .needMore _ => False

/-- `f` completes only on `c ++ rest` leaving `rest`, and asks for more on every proper prefix of `c` -/
def PrefixReader (f : Bytes → SyncRes ε α) : Prop :=
  ∀ (bs rest : Bytes), (f bs).LeavesRest rest →
    ∃ c, bs = c ++ rest ∧ ∀ k, k < c.length → ∃ fl, f (c.take k) = .needMore fl

/-- an await of a unit with a prefix decoder, followed by prefix readers, is a prefix reader -/
theorem PrefixReader.await (first : Bool) (k : β → Prog ε α) (hd : PrefixDecoder d)
    (ih : ∀ b, PrefixReader (k b).sync) : PrefixReader (awaitSync d first k) := by
  intro bs rest hr
  unfold awaitSync at hr
  cases hdb : d bs with
  | none => rw [hdb] at hr; exact hr.elim
  | some pr =>
    obtain ⟨a, r1⟩ := pr
    rw [hdb] at hr
    obtain ⟨c1, rfl, hany, hshort⟩ := hd hdb
    obtain ⟨c2, rfl, hpre⟩ := ih a r1 rest hr
    refine ⟨c1 ++ c2, (List.append_assoc _ _ _).symm, fun j hj => ?_⟩
    unfold awaitSync
    by_cases hj1 : j < c1.length
    · rw [List.take_append_of_le_length (by omega), hshort j hj1]; exact ⟨_, rfl⟩
    · rw [List.take_append, List.take_of_length_le (by omega), hany]
      exact hpre (j - c1.length) (by rw [List.length_append] at hj; omega)

/-- **Readers are prefix decoders: incomplete input is never a value or an error.** If a reader completes on
`bs` leaving `rest`, then `bs = c ++ rest`, and on every proper prefix of `c` it asks for more data. -/
theorem Prog.sync_prefixReader (p : Prog ε α) : PrefixReader p.sync := by
  induction p with
  | ret a => intro bs rest hr; exact ⟨[], hr, fun k hk => absurd hk (Nat.not_lt_zero k)⟩
  | fail e => intro bs rest hr; exact ⟨[], hr, fun k hk => absurd hk (Nat.not_lt_zero k)⟩
  | varint first k ih =>
    rw [Prog.sync_varint]
    exact PrefixReader.await first k dec_consumed ih
  | buffer first n k ih =>
    rw [Prog.sync_buffer]
    exact PrefixReader.await first k (takeN_prefixDecoder n) ih

/-- … in the form: a proper prefix of what the reader consumed asks for more -/
theorem Prog.sync_take_needMore (p : Prog ε α) {c rest : Bytes} (h : (p.sync (c ++ rest)).LeavesRest rest)
    {k : Nat} (hk : k < c.length) : ∃ fl, p.sync (c.take k) = .needMore fl := by
  obtain ⟨c', hc, hpre⟩ := p.sync_prefixReader _ _ h
  rw [← List.append_cancel_right hc] at hpre
  exact hpre k hk

/-- a reader that starts with a variable-length integer consumes at least one byte when it completes -/
theorem Prog.sync_varint_lt {first : Bool} {k : Nat → Prog ε α} {bs rest : Bytes}
    (h : ((Prog.varint first k).sync bs).LeavesRest rest) : rest.length < bs.length := by
  rw [Prog.sync_varint, awaitSync] at h
  cases hd : dec bs with
  | none => rw [hd] at h; exact h.elim
  | some pr =>
    rw [hd] at h
    obtain ⟨c, hc, _⟩ := Prog.sync_prefixReader (k pr.1) pr.2 rest h
    obtain ⟨_, _, _, _, hlt⟩ := dec_some_split hd
    have := congrArg List.length hc
    rw [List.length_append] at this
    omega
