import WtVerif.AsyncRead

/-- whatever the sink does, what is on the wire is the bytes so far followed by a prefix of the
bytes to write; the future completes exactly when all of them are written -/
theorem runPut_spec (o : List Poll) : ∀ (todo out : Bytes),
    ∃ k, k ≤ todo.length ∧ (runPut o todo out).2 = out ++ todo.take k ∧
      ((runPut o todo out).1.isSome ↔ k = todo.length) := by
  induction o with
  | nil => intro todo out; cases todo <;> exact ⟨0, by simp [runPut]⟩
  | cons p ps ih =>
    intro todo out
    simp only [runPut]
    cases todo with
    | nil => exact ⟨0, by simp⟩
    | cons x r =>
      simp only [List.isEmpty_cons, Bool.false_eq_true, if_false]
      cases p with
      | pending => exact ih (x :: r) out
      | give g =>
        simp only
        generalize hn : min (max g 1) (x :: r).length = n
        have hn1 : 1 ≤ n ∧ n ≤ (x :: r).length := by rw [← hn]; simp; omega
        obtain ⟨j, hj, hw, hd⟩ := ih ((x :: r).drop n) (out ++ (x :: r).take n)
        rw [List.length_drop] at hj hd
        exact ⟨n + j, by omega, by rw [hw, List.append_assoc, ← List.take_add], by rw [hd]; omega⟩

/-- a writer `async fn`: complete ⇒ exactly the concatenation is on the wire; incomplete ⇒ a
proper prefix of it -/
theorem runPuts_spec : ∀ (parts : List Bytes) (o : List Poll) (out : Bytes),
    ∃ k, k ≤ parts.flatten.length ∧ (runPuts parts o out).2 = out ++ parts.flatten.take k ∧
      ((runPuts parts o out).1 = true ↔ k = parts.flatten.length) := by
  intro parts
  induction parts with
  | nil => intro o out; exact ⟨0, by simp [runPuts]⟩
  | cons b bs ih =>
    intro o out
    obtain ⟨k, hk, hw, hd⟩ := runPut_spec o b out
    simp only [runPuts, List.flatten_cons, List.length_append]
    cases hr : runPut o b out with
    | mk ro w =>
      rw [hr] at hw hd
      cases ro with
      | none =>
        have : k < b.length := by have : k ≠ b.length := fun e => by simpa using hd.2 e
                                  omega
        exact ⟨k, by omega, by rw [hw, List.take_append_of_le_length (by omega)], by simp; omega⟩
      | some o' =>
        obtain rfl : k = b.length := hd.1 rfl
        obtain ⟨j, hj, hw2, hd2⟩ := ih o' w
        refine ⟨b.length + j, by omega, ?_, by rw [hd2]; omega⟩
        simp only at hw
        rw [hw2, hw, List.take_length, List.append_assoc, List.take_length_add_append]

/-- what a writer leaves on the wire: `target` when it completed, a proper prefix of it while it has not -/
def WireIs (target : Bytes) (r : Bool × Bytes) : Prop :=
  (r.1 = true → r.2 = target) ∧ (r.1 = false → ∃ k, k < target.length ∧ r.2 = target.take k)

theorem runPuts_wire (parts : List Bytes) (o : List Poll) : WireIs parts.flatten (runPuts parts o []) := by
  obtain ⟨k, hk, hw, hd⟩ := runPuts_spec parts o []
  rw [List.nil_append] at hw
  refine ⟨fun h => by rw [hw, hd.1 h, List.take_length], fun h => ⟨k, ?_, hw⟩⟩
  have : k ≠ parts.flatten.length := fun e => by rw [hd.2 e] at h; cases h
  omega
