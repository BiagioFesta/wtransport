import WtVerif.Headers

namespace Headers

theorem get_nil (k : Bytes) : get [] k = none := rfl

theorem get_cons (p : Qpack.Field) (h : Headers) (k : Bytes) :
    get (p :: h) k = if p.1 = k then some p.2 else get h k := by
  simp only [get, List.find?]
  by_cases hk : p.1 = k <;> simp [hk]

/-- replacing the value under `k` is not seen under another name -/
theorem get_map_of_ne (h : Headers) {k k' : Bytes} (v : Bytes) (hk : k' ≠ k) :
    get (h.map (fun p => if p.1 = k then (k, v) else p)) k' = get h k' := by
  induction h with
  | nil => rfl
  | cons p t ih =>
    rw [List.map_cons, get_cons, get_cons, ih]
    by_cases hp : p.1 = k
    · rw [if_pos hp, if_neg (Ne.symm hk), if_neg (hp ▸ Ne.symm hk)]
    · rw [if_neg hp]

/-- reading back after `insert` (a `HashMap::insert`) -/
theorem get_insert (h : Headers) (k v k' : Bytes) :
    get (insert h k v) k' = if k' = k then some v else get h k' := by
  unfold insert Qpack.mapInsert
  induction h with
  | nil => simp [get_cons, get_nil, eq_comm]
  | cons p t ih =>
    obtain ⟨a, b⟩ := p
    by_cases hp : a = k
    · -- the head is the field replaced; further down only other names are looked up
      subst hp
      simp only [List.any_cons, decide_true, Bool.true_or, if_true, List.map_cons, get_cons]
      by_cases hk : k' = a
      · rw [if_pos hk.symm, if_pos hk]
      · rw [if_neg (Ne.symm hk), if_neg hk, if_neg (Ne.symm hk), get_map_of_ne t v hk]
    · -- the head stays, and whether `k` is present is decided by the tail
      simp only [List.any_cons, hp, decide_false, Bool.false_or, List.map_cons, if_false, List.cons_append]
      rw [← apply_ite (List.cons (a, b)), get_cons, get_cons, ih]
      by_cases hk : a = k'
      · rw [if_pos hk, if_neg (hk ▸ hp), if_pos hk]
      · rw [if_neg hk, if_neg hk]

end Headers
