/-
The Huffman coder the code links is an inverse pair: `decode (encode s) = some s` for every
byte string. The per-symbol facts are decided by the kernel over the whole regenerated tables
(256 symbols, 8 pad lengths); everything else is by induction. Also: the decoder writes at most
one byte per bit read.
-/
import WtVerif.Huffman

theorem u8_toNat_ofNat (x : Nat) (h : x < 256) : (UInt8.ofNat x).toNat = x :=
  UInt8.toNat_ofNat_of_lt' h

/-- two digits `f`, `x` in bases `Q`, `P` make a number below `Q * P` -/
theorem Nat.mul_add_lt_mul {P Q f x : Nat} (hf : f < Q) (hx : x < P) : f * P + x < Q * P :=
  calc f * P + x < f * P + P := Nat.add_lt_add_left hx _
    _ = (f + 1) * P := (Nat.succ_mul f P).symm
    _ ≤ Q * P := Nat.mul_le_mul_right P hf

namespace Huffman

/-! ### bit arithmetic -/

theorem bitsOf_mod (len x y : Nat) : bitsOf len (x * 2 ^ len + y) = bitsOf len y := by
  induction len generalizing x with
  | zero => rfl
  | succ len ih =>
    simp only [bitsOf]
    have h1 : (x * 2 ^ (len + 1) + y) / 2 ^ len % 2 = y / 2 ^ len % 2 := by
      have : x * 2 ^ (len + 1) + y = y + 2 ^ len * (x * 2) := by rw [Nat.pow_succ, Nat.mul_left_comm, Nat.add_comm]
      rw [this, Nat.add_mul_div_left _ _ (Nat.two_pow_pos len), Nat.add_mul_mod_self_right]
    have h2 : x * 2 ^ (len + 1) + y = (x * 2) * 2 ^ len + y := by rw [Nat.pow_succ, Nat.mul_comm (2 ^ len) 2, Nat.mul_assoc]
    rw [h1, h2, ih]

theorem bitsOf_append (a b x y : Nat) (hy : y < 2 ^ b) :
    bitsOf (a + b) (x * 2 ^ b + y) = bitsOf a x ++ bitsOf b y := by
  induction a with
  | zero => simp only [Nat.zero_add, bitsOf, List.nil_append]; exact bitsOf_mod b x y
  | succ a ih =>
    have : a + 1 + b = (a + b) + 1 := by omega
    rw [this]
    simp only [bitsOf, List.cons_append]
    rw [ih]
    congr 2
    have : (x * 2 ^ b + y) / 2 ^ (a + b) = x / 2 ^ a := by
      rw [Nat.pow_add, Nat.mul_comm (2 ^ a), ← Nat.div_div_eq_div_mul]
      congr 1
      rw [Nat.add_comm, Nat.add_mul_div_right _ _ (Nat.two_pow_pos b), Nat.div_eq_of_lt hy, Nat.zero_add]
    rw [this]

theorem bitsOf_ones (b : Nat) : bitsOf b (2 ^ b - 1) = List.replicate b true := by
  induction b with
  | zero => rfl
  | succ b ih =>
    have := Nat.two_pow_pos b
    rw [show 2 ^ (b + 1) - 1 = 1 * 2 ^ b + (2 ^ b - 1) by rw [Nat.pow_succ]; omega, Nat.add_comm b 1,
      bitsOf_append 1 b 1 _ (by omega), ih, Nat.add_comm 1 b, List.replicate_succ]
    rfl

/-! ### packing -/

def padLen (total : Nat) : Nat := (8 - total % 8) % 8

theorem padLen_of_lt {x : Nat} (h0 : 0 < x) (h8 : x < 8) : padLen x = 8 - x := by
  rw [padLen, Nat.mod_eq_of_lt h8, Nat.mod_eq_of_lt (by omega)]

theorem padLen_add_eight (x : Nat) : padLen (x + 8) = padLen x := by
  rw [padLen, Nat.add_mod_right, padLen]

theorem byteBits_ofNat {x : Nat} (h : x < 256) : byteBits (UInt8.ofNat x) = bitsOf 8 x := by
  rw [byteBits, u8_toNat_ofNat x h]

theorem pack_bits (bits : List Bool) : ∀ (cur n : Nat), n < 8 → cur < 2 ^ n →
    (packAux bits cur n).flatMap byteBits
      = bitsOf n cur ++ bits ++ List.replicate (padLen (n + bits.length)) true := by
  induction bits with
  | nil =>
    intro cur n hn hc
    cases n with
    | zero => rfl
    | succ n =>
      -- the last byte: the `n + 1` bits held, then `e` ones
      obtain ⟨e, he⟩ : ∃ e, n + 1 + e = 8 := ⟨8 - (n + 1), by omega⟩
      have hpos := Nat.two_pow_pos e
      have hlt : cur * 2 ^ e + (2 ^ e - 1) < 2 ^ (n + 1) * 2 ^ e := Nat.mul_add_lt_mul hc (by omega)
      rw [← Nat.pow_add, he] at hlt
      rw [List.length_nil, Nat.add_zero, padLen_of_lt (by omega) hn, packAux, show 8 - (n + 1) = e by omega,
        List.flatMap_cons, List.flatMap_nil, List.append_nil, List.append_nil, byteBits_ofNat hlt, ← he,
        bitsOf_append _ _ _ _ (by omega), bitsOf_ones]
  | cons b r ih =>
    intro cur n hn hc
    -- the held bits with `b` behind them
    have hb : (if b then 1 else 0) < 2 ^ 1 := by cases b <;> decide
    have hsnoc : bitsOf (n + 1) (cur * 2 + (if b then 1 else 0)) = bitsOf n cur ++ [b] := by
      rw [← Nat.pow_one 2, bitsOf_append n 1 cur _ hb]
      cases b <;> rfl
    have hc' : cur * 2 + (if b then 1 else 0) < 2 ^ (n + 1) := Nat.mul_add_lt_mul hc hb
    rw [packAux, List.length_cons]
    split
    · -- the byte is full: it is written and a new one begun
      rename_i h8
      rw [h8] at hsnoc hc'
      rw [List.flatMap_cons, byteBits_ofNat hc', ih 0 0 (by decide) (by decide), hsnoc,
        show n + (r.length + 1) = 0 + r.length + 8 by omega, padLen_add_eight]
      simp only [List.append_assoc, List.cons_append, List.nil_append]
      rfl
    · rw [ih _ (n + 1) (by omega) hc', hsnoc, show n + (r.length + 1) = n + 1 + r.length by omega]
      simp only [List.append_assoc, List.cons_append, List.nil_append]

theorem packBits_bits (bits : List Bool) :
    (packBits bits).flatMap byteBits = bits ++ List.replicate (padLen bits.length) true := by
  have := pack_bits bits 0 0 (by decide) (by decide)
  simpa [packBits, bitsOf] using this

/-! ### decoding -/

/-- a step does not look at `out`, and appends at most one byte to it -/
theorem stepBit_out (id tail : Nat) (b : Bool) :
    (∀ o, stepBit ⟨id, tail, o⟩ b = none) ∨
    ∃ id' tail' d, d.length ≤ 1 ∧ ∀ o, stepBit ⟨id, tail, o⟩ b = some ⟨id', tail', o ++ d⟩ := by
  unfold stepBit
  simp only
  cases Generated.HUFFMAN_DECODE1[id]? with
  | none => exact .inl fun _ => rfl
  | some p =>
    obtain ⟨t0, t1⟩ := p
    simp only
    generalize (if b = true then t1 else t0) = t
    obtain ⟨nxt, ascii, x⟩ := t
    simp only
    by_cases ha : ascii ≠ 65535
    · by_cases hs : ascii < 256
      · exact .inr ⟨0, 0, [UInt8.ofNat ascii], Nat.le_refl 1, fun _ => by rw [if_pos ha, if_pos hs]⟩
      · exact .inl fun _ => by rw [if_pos ha, if_neg hs]
    · by_cases hn : nxt ≠ 65535
      · exact .inr ⟨nxt, _, [], Nat.zero_le 1, fun o => by rw [if_neg ha, if_pos hn, List.append_nil]⟩
      · exact .inl fun _ => by rw [if_neg ha, if_neg hn]

/-- so does a run of steps: at most one byte per bit -/
theorem stepBits_out (bits : List Bool) : ∀ (id tail : Nat),
    (∀ o, stepBits ⟨id, tail, o⟩ bits = none) ∨
    ∃ id' tail' d, d.length ≤ bits.length ∧ ∀ o, stepBits ⟨id, tail, o⟩ bits = some ⟨id', tail', o ++ d⟩ := by
  induction bits with
  | nil => exact fun id tail => .inr ⟨id, tail, [], Nat.le_refl 0, fun o => by rw [List.append_nil]; rfl⟩
  | cons b r ih =>
    intro id tail
    rcases stepBit_out id tail b with h1 | ⟨id1, tail1, d1, hd1, h1⟩
    · exact .inl fun o => by simp only [stepBits, h1]
    · rcases ih id1 tail1 with h2 | ⟨id2, tail2, d2, hd2, h2⟩
      · exact .inl fun o => by simp only [stepBits, h1, h2]
      · refine .inr ⟨id2, tail2, d1 ++ d2, ?_, fun o => by simp only [stepBits, h1, h2, List.append_assoc]⟩
        rw [List.length_append, List.length_cons]; omega

def DState.pre (o : Bytes) (st : DState) : DState := { st with out := o ++ st.out }

theorem stepBits_pre (o : Bytes) (bits : List Bool) (st : DState) :
    stepBits (st.pre o) bits = (stepBits st bits).map (DState.pre o) := by
  obtain ⟨id, tail, out⟩ := st
  rcases stepBits_out bits id tail with h | ⟨id', tail', d, _, h⟩
  · rw [DState.pre, h, h]; rfl
  · rw [DState.pre, h, h, Option.map_some, DState.pre, List.append_assoc]

theorem stepBits_out_le {bits : List Bool} {st st' : DState} (h : stepBits st bits = some st') :
    st'.out.length ≤ st.out.length + bits.length := by
  obtain ⟨id, tail, out⟩ := st
  rcases stepBits_out bits id tail with hn | ⟨id', tail', d, hd, hs⟩
  · rw [hn] at h; cases h
  · rw [hs] at h; cases h
    simp only [List.length_append]; omega

theorem stepBits_append (a b : List Bool) : ∀ st : DState,
    stepBits st (a ++ b) = (stepBits st a).bind (fun st' => stepBits st' b) := by
  induction a with
  | nil => intro st; rfl
  | cons x a ih =>
    intro st
    simp only [List.cons_append, stepBits]
    cases stepBit st x with
    | none => rfl
    | some st' => exact ih st'

def st0 (o : Bytes) : DState := { id := 0, tail := 0, out := o }

theorem st0_pre (o : Bytes) : (st0 []).pre o = st0 o := by simp [st0, DState.pre]

/-- every symbol's code, fed to the decoder from the root, yields that symbol and returns to
the root (decided over the whole regenerated tables). The encode table is walked with its
indices, not indexed once per symbol: a list lookup costs the kernel its index in steps.
Entry 256 is EOS, which is never encoded. -/
theorem all_symbols : ∀ p ∈ Generated.HUFFMAN_ENCODE.zipIdx, p.2 < 256 →
    stepBits (st0 []) (bitsOf p.1.1 p.1.2) = some (st0 [UInt8.ofNat p.2]) := by decide +kernel

/-- `k ≤ 7` one-bits after the last symbol leave the decoder in a state `finalize` accepts -/
def padOk (k : Nat) : Bool :=
  match stepBits (st0 []) (List.replicate k true) with
  | some st => st.out == [] && [0, 1, 3, 7, 15, 31, 63, 127].contains st.tail
  | none => false

theorem all_pads : (List.range 8).all padOk = true := by decide +kernel

theorem sym_step (b : UInt8) (o : Bytes) (rest : List Bool) :
    stepBits (st0 o) (codeBits b.toNat ++ rest) = stepBits (st0 (o ++ [b])) rest := by
  have hlt : b.toNat < Generated.HUFFMAN_ENCODE.length := Nat.lt_trans b.toNat_lt (by decide +kernel)
  have h := all_symbols (Generated.HUFFMAN_ENCODE[b.toNat], b.toNat)
    (List.mem_zipIdx_iff_getElem?.2 (List.getElem?_eq_getElem hlt)) b.toNat_lt
  rw [codeBits, List.getElem?_eq_getElem hlt, stepBits_append, ← st0_pre o, stepBits_pre, h]
  simp [DState.pre, st0]

theorem syms_step (s : Bytes) : ∀ (o : Bytes) (rest : List Bool),
    stepBits (st0 o) (s.flatMap (fun b => codeBits b.toNat) ++ rest) = stepBits (st0 (o ++ s)) rest := by
  induction s with
  | nil => intro o rest; simp
  | cons b s ih =>
    intro o rest
    simp only [List.flatMap_cons, List.append_assoc]
    rw [sym_step, ih]
    simp

/-- **The Huffman coder is an inverse pair** on every byte string. -/
theorem decode_encode (s : Bytes) : decode (encode s) = some s := by
  unfold decode encode
  rw [packBits_bits]
  have := syms_step s [] (List.replicate (padLen (s.flatMap (fun b => codeBits b.toNat)).length) true)
  have hst : ({ id := 0, tail := 0, out := [] } : DState) = st0 [] := rfl
  rw [hst, this]
  generalize hk : padLen (s.flatMap (fun b => codeBits b.toNat)).length = k
  have hk8 : k < 8 := by rw [← hk]; unfold padLen; omega
  have hp := List.all_eq_true.1 all_pads k (List.mem_range.2 hk8)
  unfold padOk at hp
  rw [List.nil_append, ← st0_pre s, stepBits_pre]
  cases hs : stepBits (st0 []) (List.replicate k true) with
  | none => rw [hs] at hp; cases hp
  | some st =>
    rw [hs] at hp
    simp only [Bool.and_eq_true, beq_iff_eq] at hp
    simp only [Option.map_some, DState.pre, hp.2, if_true, hp.1, List.append_nil]

/-! ### the decoder's output is at most eight bytes per input byte -/

theorem byteBits_length (b : UInt8) : (byteBits b).length = 8 := by
  simp [byteBits, bitsOf]

theorem flatMap_byteBits_length (src : Bytes) : (src.flatMap byteBits).length = 8 * src.length := by
  induction src with
  | nil => rfl
  | cons a t ih => simp only [List.flatMap_cons, List.length_append, byteBits_length, List.length_cons, ih]; omega

theorem decode_length_le {src out : Bytes} (h : decode src = some out) : out.length ≤ 8 * src.length := by
  unfold decode at h
  split at h
  · cases h
  · rename_i st hs
    split at h
    · cases h
      have := stepBits_out_le hs
      rwa [flatMap_byteBits_length, List.length_nil, Nat.zero_add] at this
    · cases h

end Huffman
