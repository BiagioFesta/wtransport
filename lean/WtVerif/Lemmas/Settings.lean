/-
Round trip of SETTINGS payloads (`Settings::generate_frame` / `Settings::with_frame`).
-/
import WtVerif.Lemmas.Worker

namespace SettingId

/-- a setting id the typed API can hold: a GREASE id really is one -/
def WF : SettingId → Prop
  | .exercise id => isExercise id = true
  | _ => True

theorem parse_id (sid : SettingId) (h : sid.WF) : parse sid.id = .ok sid := by
  cases sid with
  | exercise n =>
    have hex : isExercise n = true := h
    have hnr : isReserved n = false := by
      unfold isExercise at hex
      rw [isGrease_iff] at hex
      unfold isReserved
      simp only [Generated.SETTINGS_RESERVED, Generated.SETTINGS_GREASE_BASE] at *
      simp; omega
    simp [parse, SettingId.id, hex, hnr]
  | _ => rfl

end SettingId

namespace Settings

theorem get_append_none (acc : Settings) (k : SettingId) (p : SettingId × Nat)
    (h : get acc k = none) (hk : p.1 ≠ k) : get (acc ++ [p]) k = none := by
  unfold get at *
  simp only [Option.map_eq_none_iff, List.find?_eq_none] at *
  intro x hx
  rcases List.mem_append.1 hx with hx | hx
  · exact h x hx
  · simp at hx; subst hx; simpa using hk

/-- **SETTINGS round-trip**: whatever order `generate_frame` walks its map in, `with_frame`
gives back exactly those entries (appended to what it already holds), provided the ids are
distinct — which a map guarantees — and ids and values are representable. -/
theorem withPayload_encode : ∀ (s acc : Settings),
    (∀ p ∈ s, p.1.WF ∧ p.1.id < 2^62 ∧ p.2 < 2^62) →
    (s.map (·.1)).Nodup → (∀ p ∈ s, get acc p.1 = none) →
    withPayload (encode s) acc = .ok (acc ++ s) := by
  intro s
  induction s with
  | nil => intro acc _ _ _; simp [encode, withPayload_nil]
  | cons p s ih =>
    intro acc hwf hnd hacc
    obtain ⟨hw, hid, hv⟩ := hwf p (by simp)
    have hnd' : p.1 ∉ s.map (·.1) ∧ (s.map (·.1)).Nodup := List.nodup_cons.1 hnd
    show withPayload (Varint.enc p.1.id ++ Varint.enc p.2 ++ encode s) acc = _
    rw [withPayload_pair _ _ _ _ hid hv, SettingId.parse_id _ hw]
    simp only [hacc p (by simp), Option.isSome_none, Bool.false_eq_true, if_false]
    rw [ih (acc ++ [p]) (fun q hq => hwf q (by simp [hq])) hnd'.2, List.append_assoc]
    · rfl
    · intro q hq
      exact get_append_none acc q.1 p (hacc q (by simp [hq]))
        (fun heq => hnd'.1 (heq ▸ List.mem_map_of_mem hq))

end Settings
