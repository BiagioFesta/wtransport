/-
`VarInt::size` and `VarInt::parse_size` against the thresholds regenerated from `varint.rs`.
-/
import WtVerif.Lemmas.Varint

namespace Varint

/-- the arithmetic form of `parse_size` is the source's `match first >> 6` -/
theorem parseSize_eq_src (x : UInt8) : parseSize x = parseSizeSrc x := by
  have hx := x.toNat_lt
  unfold parseSize parseSizeSrc
  simp only [Generated.VARINT_PARSE_SHIFT, Generated.VARINT_PARSE_0, Generated.VARINT_PARSE_1,
    Generated.VARINT_PARSE_2, Generated.VARINT_PARSE_3, Nat.shiftRight_eq_div_pow]
  split
  · rw [show x.toNat / 2 ^ 6 = 0 by omega]; rfl
  · split
    · rw [show x.toNat / 2 ^ 6 = 1 by omega]; rfl
    · split
      · rw [show x.toNat / 2 ^ 6 = 2 by omega]; rfl
      · rw [show x.toNat / 2 ^ 6 = 3 by omega]; rfl

/-- `VarInt::size` by its four ranges -/
theorem size_cases (v : Nat) :
    (v < 2^6 ∧ size v = 1) ∨ (2^6 ≤ v ∧ v < 2^14 ∧ size v = 2) ∨
    (2^14 ≤ v ∧ v < 2^30 ∧ size v = 4) ∨ (2^30 ≤ v ∧ size v = 8) := by
  unfold size
  simp only [Generated.VARINT_SIZE_T1, Generated.VARINT_SIZE_T2, Generated.VARINT_SIZE_T4]
  split
  · exact Or.inl ⟨by omega, rfl⟩
  · split
    · exact Or.inr (Or.inl ⟨by omega, by omega, rfl⟩)
    · split
      · exact Or.inr (Or.inr (Or.inl ⟨by omega, by omega, rfl⟩))
      · exact Or.inr (Or.inr (Or.inr ⟨by omega, rfl⟩))

theorem size_pos (v : Nat) : 1 ≤ size v := by
  rcases size_cases v with h | h | h | h <;> omega

theorem size_le (v : Nat) : size v ≤ 8 := by
  rcases size_cases v with h | h | h | h <;> omega

theorem enc_length (v : Nat) : (enc v).length = size v := by
  unfold enc size
  simp only [Generated.VARINT_SIZE_T1, Generated.VARINT_SIZE_T2, Generated.VARINT_SIZE_T4]
  split <;> (try split) <;> (try split) <;> simp [*]

/-- a value decoded from `n` bytes is below `64 * 256^(n-1)`, hence `size v ≤ n` -/
theorem size_le_of_dec {bs : Bytes} {v : Nat} (h : dec bs = some (v, [])) : size v ≤ bs.length := by
  obtain ⟨b0, r, rfl, hfull, rfl⟩ := dec_eq_some h
  have hlt := exactVal_lt b0 r
  generalize exactVal (b0 :: r) = v at hlt ⊢
  have hp : parseSize b0 = 1 ∨ parseSize b0 = 2 ∨ parseSize b0 = 4 ∨ parseSize b0 = 8 := by
    unfold parseSize; (repeat' split) <;> simp
  simp only [List.append_nil, List.length_cons] at hfull ⊢
  rcases hp with hp | hp | hp | hp
  all_goals
    rw [show r.length = parseSize b0 - 1 by omega, hp] at hlt
    rcases size_cases v with h | h | h | h <;> omega
end Varint
