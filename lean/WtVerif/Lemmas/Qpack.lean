/-
QPACK prefix integers, string literals and field lines: decoding what the encoder wrote gives the
value back.
-/
import WtVerif.Qpack
import WtVerif.Lemmas.Huffman

namespace Qpack

/-! ### prefix integers -/

/-- `decodeIntCont` on one more byte: its three overflow checks amount to `power < 64` and the new
value fitting 64 bits -/
theorem decodeIntCont_cons (b : UInt8) (r : Bytes) (value power : Nat) :
    decodeIntCont (b :: r) value power =
      if power < 64 ∧ value + b.toNat % 128 * 2 ^ power < 2 ^ 64 then
        if b.toNat / 128 = 0 then .ok (value + b.toNat % 128 * 2 ^ power, r)
        else decodeIntCont r (value + b.toNat % 128 * 2 ^ power) (power + 7)
      else .error .integerOverflow := by
  rw [decodeIntCont]
  by_cases hp : power < 64
  · by_cases hv : value + b.toNat % 128 * 2 ^ power < 2 ^ 64
    · rw [if_neg (by omega), if_neg (by omega), if_neg (by omega), if_pos (And.intro hp hv)]
    · rw [if_neg (by omega), if_pos (Nat.le_of_not_lt hv), ite_self, if_neg (fun h => hv h.2)]
  · rw [if_pos (Nat.le_of_not_lt hp), if_neg (fun h => hp h.1)]

theorem chunk_split (rem power : Nat) :
    rem * 2 ^ power = rem % 128 * 2 ^ power + rem / 128 * 2 ^ (power + 7) :=
  calc rem * 2 ^ power = (rem % 128 + rem / 128 * 128) * 2 ^ power := by rw [Nat.mod_add_div']
    _ = _ := by rw [Nat.add_mul, Nat.mul_assoc, Nat.mul_comm 128, Nat.pow_add]

/-- continuation bytes: every value that fits 64 bits comes back -/
theorem decodeIntCont_encode : ∀ (fuel rem : Nat), rem ≤ fuel → ∀ (value power : Nat) (rest : Bytes),
    value + rem * 2 ^ power < 2 ^ 64 → power < 64 →
    decodeIntCont (encodeIntContF fuel rem ++ rest) value power = .ok (value + rem * 2 ^ power, rest) := by
  have last : ∀ (rem value power : Nat) (rest : Bytes), rem < 128 → value + rem * 2 ^ power < 2 ^ 64 →
      power < 64 → decodeIntCont ([UInt8.ofNat rem] ++ rest) value power = .ok (value + rem * 2 ^ power, rest) := by
    intro rem value power rest hr hv hp
    rw [List.singleton_append, decodeIntCont_cons, u8_toNat_ofNat rem (by omega), Nat.mod_eq_of_lt hr,
      if_pos ⟨hp, hv⟩, if_pos (by omega)]
  intro fuel
  induction fuel with
  | zero => intro rem hr value power rest; exact last rem value power rest (by omega)
  | succ n ih =>
    intro rem hr value power rest hv hp
    rw [encodeIntContF]
    split
    · -- a continuation byte: low seven bits of `rem`, high bit set; the rest is `rem / 128`, seven bits up
      have hs := chunk_split rem power
      have hp7 : power + 7 < 64 := by
        apply (Nat.pow_lt_pow_iff_right (by decide : 1 < 2)).1
        have : 2 ^ (power + 7) ≤ rem / 128 * 2 ^ (power + 7) := Nat.le_mul_of_pos_left _ (by omega)
        omega
      rw [List.cons_append, decodeIntCont_cons, u8_toNat_ofNat _ (by omega), Nat.add_mod_right, Nat.mod_mod,
        if_pos ⟨hp, by omega⟩, if_neg (by omega), ih _ (by omega) _ _ _ (by omega) hp7, Nat.add_assoc, ← hs]
    · exact last rem value power rest (by omega) hv hp

/-- a byte made of `flags` above a `P`-valued prefix holding `x`: what makes it work is only that the
two parts fill the byte exactly, `P * Q = 256` -/
theorem prefix_byte {P Q flags x : Nat} (hPQ : P * Q = 256) (hf : flags < Q) (hx : x < P) :
    (UInt8.ofNat (flags * P % 256 + x)).toNat / P = flags ∧
    (UInt8.ofNat (flags * P % 256 + x)).toNat % P = x := by
  have h : flags * P + x < Q * P := Nat.mul_add_lt_mul hf hx
  rw [Nat.mul_comm Q P, hPQ] at h
  rw [Nat.mod_eq_of_lt (by omega), u8_toNat_ofNat _ (by omega)]
  exact (Nat.div_mod_unique (by omega)).2 ⟨by rw [Nat.mul_comm, Nat.add_comm], hx⟩

theorem two_pow_mul_two_pow_sub {n : Nat} (hn : n ≤ 8) : 2 ^ n * 2 ^ (8 - n) = 256 := by
  rw [← Nat.pow_add, Nat.add_sub_cancel' hn]

theorem two_pow_sub_le (n : Nat) : 2 ^ (8 - n) ≤ 256 := Nat.pow_le_pow_right (by decide) (Nat.sub_le 8 n)

/-- first byte of a prefix integer: the flags sit above the `n`-bit prefix -/
theorem encodeInt_head (n flags v : Nat) (hn : 1 ≤ n ∧ n ≤ 8) (hf : flags < 2 ^ (8 - n)) :
    ∃ b r, encodeInt n flags v = b :: r ∧ b.toNat / 2 ^ n = flags := by
  have hb := fun x hx => (prefix_byte (two_pow_mul_two_pow_sub hn.2) hf (x := x) hx).1
  have := Nat.two_pow_pos n
  simp only [encodeInt]
  by_cases h : v < 2 ^ n - 1
  · exact ⟨_, _, if_pos h, hb _ (by omega)⟩
  · exact ⟨_, _, if_neg h, hb _ (by omega)⟩

/-- **Prefix integers round-trip** for every prefix width 1..8, every flags value that fits the
remaining bits and every value below 2^64. -/
theorem decodeInt_encodeInt (n flags v : Nat) (rest : Bytes) (hn : 1 ≤ n ∧ n ≤ 8) (hf : flags < 2 ^ (8 - n))
    (hv : v < 2 ^ 64) : decodeInt n (encodeInt n flags v ++ rest) = .ok (flags, v, rest) := by
  have hb := fun x hx => prefix_byte (two_pow_mul_two_pow_sub hn.2) hf (x := x) hx
  have hP := Nat.two_pow_pos n
  have hfl : flags % 256 = flags := Nat.mod_eq_of_lt (Nat.lt_of_lt_of_le hf (two_pow_sub_le n))
  simp only [encodeInt]
  split
  · -- the value fits the prefix
    obtain ⟨h1, h2⟩ := hb v (by omega)
    rw [List.singleton_append, decodeInt, h1, h2, if_pos (by omega), hfl]
  · -- the prefix is all ones, the excess follows
    obtain ⟨h1, h2⟩ := hb (2 ^ n - 1) (by omega)
    rw [List.cons_append, decodeInt, h1, h2, if_neg (by omega), encodeIntCont,
      decodeIntCont_encode _ _ (Nat.le_refl _) _ 0 rest (by omega) (by decide), hfl]
    simp only [Nat.pow_zero, Nat.mul_one]
    rw [Nat.add_sub_cancel' (by omega)]

/-- what a successful `decodeInt` has read: one byte whose prefix is the value, or an all-ones prefix
and continuation bytes -/
theorem decodeInt_ok {n : Nat} {bs : Bytes} {flags v : Nat} {r : Bytes} (h : decodeInt n bs = .ok (flags, v, r)) :
    ∃ b t, bs = b :: t ∧
      (b.toNat % 2 ^ n ≠ 2 ^ n - 1 ∧ v = b.toNat % 2 ^ n ∧ r = t ∨
       b.toNat % 2 ^ n = 2 ^ n - 1 ∧ decodeIntCont t (b.toNat % 2 ^ n) 0 = .ok (v, r)) := by
  unfold decodeInt at h
  split at h
  · cases h
  · rename_i b t
    refine ⟨b, t, rfl, ?_⟩
    simp only at h
    split at h
    · rename_i hne
      cases h
      exact .inl ⟨hne, rfl, rfl⟩
    · rename_i heq
      split at h
      · rename_i hc
        cases h
        exact .inr ⟨Decidable.not_not.1 heq, hc⟩
      · cases h

/-! ### string literals -/

/-- the law of the Huffman coder the string round trip relies on -/
def HuffOk (s : Bytes) : Prop := Huffman.decode (Huffman.encode s) = some s

/-- a string literal is a prefix integer `(flags·2 + H, length)` and that many bytes -/
theorem encodeString_eq (n flags : Nat) (s : Bytes) : ∃ isH data,
    encodeString n flags s = encodeInt n ((flags * 2 + isH) % 256) data.length ++ data ∧
    data.length ≤ s.length ∧ (isH = 1 ∧ data = Huffman.encode s ∨ isH = 0 ∧ data = s) := by
  by_cases h : (Huffman.encode s).length < s.length
  · exact ⟨1, Huffman.encode s, by simp only [encodeString, h, if_true], Nat.le_of_lt h, .inl ⟨rfl, rfl⟩⟩
  · exact ⟨0, s, by simp only [encodeString, h, if_false], Nat.le_refl _, .inr ⟨rfl, rfl⟩⟩

/-- first byte of a string literal: the flags sit above the `H` bit and the `n`-bit prefix -/
theorem encodeString_head (n flags : Nat) (s : Bytes) (hn : 1 ≤ n ∧ n ≤ 8) (hf : flags * 2 + 1 < 2 ^ (8 - n)) :
    ∃ b r, encodeString n flags s = b :: r ∧ b.toNat / 2 ^ (n + 1) = flags := by
  obtain ⟨isH, data, he, -, hH⟩ := encodeString_eq n flags s
  have := two_pow_sub_le n
  obtain ⟨b, r, hb, hd⟩ := encodeInt_head n (flags * 2 + isH) data.length hn (by omega)
  rw [Nat.mod_eq_of_lt (by omega), hb] at he
  exact ⟨b, r ++ data, he, by rw [Nat.pow_succ, ← Nat.div_div_eq_div_mul, hd]; omega⟩

/-- what `decodeString` does with a well-formed literal -/
theorem decodeString_literal (n fl : Nat) (data rest : Bytes) (hn : 1 ≤ n ∧ n ≤ 8) (hf : fl < 2 ^ (8 - n))
    (hl : data.length < 2 ^ 64) :
    decodeString n (encodeInt n fl data.length ++ data ++ rest) =
      if fl % 2 = 1 then
        match Huffman.decode data with
        | none => .error .invalidString
        | some s => if Utf8.valid s then .ok (s, rest) else .error .invalidString
      else if Utf8.valid data then .ok (data, rest) else .error .invalidString := by
  rw [decodeString, List.append_assoc, decodeInt_encodeInt n fl _ _ hn hf hl]
  simp only [List.length_append, Nat.not_lt_of_le (Nat.le_add_right _ _), if_false, List.take_left', List.drop_left']
  rfl

/-- **String literals round-trip**: for every valid UTF-8 string for which the Huffman coder is
an inverse pair (`HuffOk`), whether or not the Huffman form is the shorter one. -/
theorem decodeString_encodeString (n flags : Nat) (s rest : Bytes) (hn : 1 ≤ n ∧ n ≤ 8)
    (hf : flags * 2 + 1 < 2 ^ (8 - n)) (hu : Utf8.valid s = true) (hh : HuffOk s) (hl : s.length < 2 ^ 64) :
    decodeString n (encodeString n flags s ++ rest) = .ok (s, rest) := by
  obtain ⟨isH, data, he, hd, hH⟩ := encodeString_eq n flags s
  have := two_pow_sub_le n
  rw [he, Nat.mod_eq_of_lt (by omega), decodeString_literal n _ data rest hn (by omega) (by omega)]
  rcases hH with ⟨rfl, rfl⟩ | ⟨rfl, rfl⟩
  · rw [if_pos (by omega), show Huffman.decode (Huffman.encode s) = some s from hh]
    simp only [hu, if_true]
  · rw [if_neg (by omega), if_pos hu]

/-- what a successful `decodeString` has read: a length, that many bytes, and the string they stand
for, raw or Huffman-coded -/
theorem decodeString_ok {n : Nat} {bs s rest : Bytes} (h : decodeString n bs = .ok (s, rest)) :
    ∃ flags len r, decodeInt n bs = .ok (flags, len, r) ∧ len ≤ r.length ∧ rest = r.drop len ∧
      Utf8.valid s = true ∧ (s = r.take len ∨ Huffman.decode (r.take len) = some s) := by
  unfold decodeString at h
  split at h
  · cases h
  · rename_i flags len r hdi
    refine ⟨flags, len, r, hdi, ?_⟩
    split at h
    · cases h
    · rename_i hlen
      simp only at h
      split at h
      · split at h
        · cases h
        · rename_i hd
          split at h
          · rename_i hu
            cases h
            exact ⟨Nat.le_of_not_lt hlen, rfl, hu, .inr hd⟩
          · cases h
      · split at h
        · rename_i hu
          cases h
          exact ⟨Nat.le_of_not_lt hlen, rfl, hu, .inl rfl⟩
        · cases h

/-! ### the static table -/

/-- the first row with the name decides, and says whether its value is the one asked for -/
theorem lookupFrom_some : ∀ (t : List Field) (i : Nat) (key value : Bytes) (l : Lookup),
    lookupFrom t i key value = some l →
    ∃ k v, t[k]? = some (key, v) ∧ l = if v = value then .keyValue (i + k) else .keyOnly (i + k) := by
  intro t
  induction t with
  | nil => intro i key value l h; cases h
  | cons e t ih =>
    intro i key value l h
    obtain ⟨k, v⟩ := e
    rw [lookupFrom] at h
    split at h
    · rename_i hk
      subst hk
      refine ⟨0, v, rfl, ?_⟩
      split at h <;> rename_i hv
      · rw [if_pos hv]; exact (Option.some.inj h).symm
      · rw [if_neg hv]; exact (Option.some.inj h).symm
    · obtain ⟨k', v', ht, hl⟩ := ih (i + 1) key value l h
      exact ⟨k' + 1, v', ht, by rw [hl, Nat.add_assoc, Nat.add_comm 1]⟩

/-- a name the table does not contain is not found -/
theorem lookupFrom_none : ∀ (t : List Field) (i : Nat) (key value : Bytes),
    lookupFrom t i key value = none → ∀ e ∈ t, e.1 ≠ key := by
  intro t
  induction t with
  | nil => intro i key value _ e he; cases he
  | cons e t ih =>
    intro i key value h e' he'
    obtain ⟨k, v⟩ := e
    simp only [lookupFrom] at h
    by_cases hk : k = key
    · rw [if_pos hk] at h; split at h <;> cases h
    · rw [if_neg hk] at h
      simp only [List.mem_cons] at he'
      rcases he' with rfl | he'
      · exact hk
      · exact ih (i + 1) key value h e' he'

theorem table_length : table.length = 99 := by decide

theorem lookupIndex_some {key value : Bytes} {l : Lookup} (h : lookupIndex key value = some l) :
    ∃ j v, j < 99 ∧ table[j]? = some (key, v) ∧ l = if v = value then .keyValue j else .keyOnly j := by
  obtain ⟨k, v, ht, hl⟩ := lookupFrom_some table 0 key value l h
  rw [Nat.zero_add] at hl
  exact ⟨k, v, table_length ▸ (List.getElem?_eq_some_iff.1 ht).1, ht, hl⟩

/-! ### field lines -/

/-- a field the round trip covers: both strings valid UTF-8 with the Huffman law -/
def FieldOk (f : Field) : Prop :=
  Utf8.valid f.1 = true ∧ Utf8.valid f.2 = true ∧ HuffOk f.1 ∧ HuffOk f.2 ∧ f.1.length < 2 ^ 64 ∧ f.2.length < 2 ^ 64

/-- **One field line round-trips**, whichever of the three representations the encoder chose. -/
theorem decodeLines_encodeField (fuel : Nat) (f : Field) (rest : Bytes) (acc : List Field) (hok : FieldOk f) :
    decodeLines (fuel + 1) (encodeField f ++ rest) acc = decodeLines fuel rest (mapInsert acc f.1 f.2) := by
  obtain ⟨hu1, hu2, hh1, hh2, hl1, hl2⟩ := hok
  have hvalue := decodeString_encodeString 7 0 f.2 rest (by decide) (by decide) hu2 hh2 hl2
  unfold encodeField
  cases hlk : lookupIndex f.1 f.2 with
  | some l =>
    obtain ⟨i, v, hi, ht, rfl⟩ := lookupIndex_some hlk
    by_cases hv : v = f.2
    · -- the row has name and value: `11` and the index
      obtain ⟨b, r, hb, hd⟩ := encodeInt_head 6 3 i (by decide) (by decide)
      have hdec := decodeInt_encodeInt 6 3 i rest (by decide) (by decide) (by omega)
      have hx := b.toNat_lt
      rw [hb, List.cons_append] at hdec
      simp only [if_pos hv, Generated.QPACK_ENC_INDEXED_N, Generated.QPACK_ENC_INDEXED_FLAGS, hb, List.cons_append,
        decodeLines]
      rw [if_pos (by omega), if_neg (by omega), hdec]
      simp only [ht, hv]
    · -- the row has the name: `0101`, the index, the value
      obtain ⟨b, r, hb, hd⟩ := encodeInt_head 4 5 i (by decide) (by decide)
      have hdec := decodeInt_encodeInt 4 5 i (encodeString 7 0 f.2 ++ rest) (by decide) (by decide) (by omega)
      have hx := b.toNat_lt
      rw [hb, List.cons_append] at hdec
      simp only [if_neg hv, Generated.QPACK_ENC_NAMEREF_N, Generated.QPACK_ENC_NAMEREF_FLAGS, Generated.QPACK_ENC_VALUE_N,
        List.append_assoc, hb, List.cons_append, decodeLines]
      rw [if_neg (by omega), if_neg (by omega), if_pos (by omega), if_neg (by omega), hdec]
      simp only [ht, hvalue]
  | none =>
    -- no row: `0010`, the name, the value
    obtain ⟨b, r, hb, hd⟩ := encodeString_head 3 2 f.1 (by decide) (by decide)
    have hdec := decodeString_encodeString 3 2 f.1 (encodeString 7 0 f.2 ++ rest) (by decide) (by decide) hu1 hh1 hl1
    have hx := b.toNat_lt
    rw [hb, List.cons_append] at hdec
    simp only [Generated.QPACK_ENC_LITNAME_N, Generated.QPACK_ENC_LITNAME_FLAGS, Generated.QPACK_ENC_VALUE_N,
      List.append_assoc, hb, List.cons_append, decodeLines]
    rw [if_neg (by omega), if_neg (by omega), if_neg (by omega), if_neg (by omega), hdec]
    simp only [hvalue]

/-- a line that decodes to a field is not empty: on no input the loop returns the map as it is -/
theorem encodeField_ne_nil {f : Field} (hok : FieldOk f) : encodeField f ≠ [] := by
  intro h
  have := decodeLines_encodeField 0 f [] [] hok
  rw [h] at this
  cases this

theorem decodeLines_encode : ∀ (fs : List Field) (fuel : Nat) (acc : List Field),
    (fs.flatMap encodeField).length < fuel → (∀ f ∈ fs, FieldOk f) →
    decodeLines fuel (fs.flatMap encodeField) acc = .ok (fs.foldl (fun m f => mapInsert m f.1 f.2) acc) := by
  intro fs
  induction fs with
  | nil =>
    intro fuel acc hfu _
    cases fuel with
    | zero => cases hfu
    | succ n => rfl
  | cons f fs ih =>
    intro fuel acc hfu hok
    have hf := hok f List.mem_cons_self
    have := List.length_pos_iff.2 (encodeField_ne_nil hf)
    rw [List.flatMap_cons] at hfu ⊢
    rw [List.length_append] at hfu
    cases fuel with
    | zero => cases hfu
    | succ n =>
      rw [decodeLines_encodeField n f _ acc hf]
      exact ih n _ (by omega) (fun g hg => hok g (List.mem_cons_of_mem _ hg))

/-- **Field sections round-trip**: decoding what `Encoder::encode` produced for any list of
fields gives back the map of those fields (a later field of the same name replacing an
earlier one, as `HashMap::insert` does). -/
theorem decode_encode (fs : List Field) (hok : ∀ f ∈ fs, FieldOk f) :
    decode (encode fs) = .ok (fs.foldl (fun m f => mapInsert m f.1 f.2) []) := by
  unfold decode encode
  have h8 := decodeInt_encodeInt 8 0 0 (encodeInt 7 0 0 ++ fs.flatMap encodeField) (by decide) (by decide) (by decide)
  have h7 := decodeInt_encodeInt 7 0 0 (fs.flatMap encodeField) (by decide) (by decide) (by decide)
  rw [List.append_assoc, h8]
  simp only
  rw [h7]
  exact decodeLines_encode fs _ [] (Nat.lt_succ_self _) hok

theorem foldl_mapInsert_nodup : ∀ (fs acc : List Field), ((acc ++ fs).map (·.1)).Nodup →
    fs.foldl (fun m f => mapInsert m f.1 f.2) acc = acc ++ fs := by
  intro fs
  induction fs with
  | nil => intro acc _; simp
  | cons f fs ih =>
    intro acc hnd
    simp only [List.foldl]
    have hnot : acc.any (fun p => p.1 = f.1) = false := by
      rw [List.any_eq_false]
      intro p hp
      simp only [decide_eq_true_eq]
      intro heq
      rw [List.map_append, List.map_cons] at hnd
      have := (List.nodup_append.1 hnd).2.2 p.1 (List.mem_map_of_mem hp) f.1 (by simp)
      exact this heq
    have : mapInsert acc f.1 f.2 = acc ++ [f] := by unfold mapInsert; simp [hnot]
    rw [this, ih (acc ++ [f]) (by simpa [List.append_assoc] using hnd)]
    simp

end Qpack
