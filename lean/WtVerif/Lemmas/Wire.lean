/-
The header map through the wire: `Headers::generate_frame` sorts the map, QPACK-encodes it,
and `Headers::with_frame` decodes it — the map that comes out has the same value under every
name as the one that went in.
-/
import WtVerif.Lemmas.Headers
import WtVerif.Lemmas.Qpack
import WtVerif.Lemmas.Huffman

namespace Headers

theorem insertSorted_perm (f : Qpack.Field) (l : Headers) : (insertSorted f l).Perm (f :: l) := by
  induction l with
  | nil => exact .refl _
  | cons g r ih =>
    unfold insertSorted
    split
    · exact .refl _
    · exact (ih.cons g).trans (.swap f g r)

theorem sorted_perm (h : Headers) : (sorted h).Perm h := by
  induction h with
  | nil => exact .refl _
  | cons f r ih => exact (insertSorted_perm f _).trans (ih.cons f)

/-- in a map (distinct names) `get` is membership -/
theorem get_eq_some_iff (h : Headers) (hnd : (h.map (·.1)).Nodup) (k v : Bytes) :
    get h k = some v ↔ (k, v) ∈ h := by
  induction h with
  | nil => simp [get]
  | cons p r ih =>
    obtain ⟨hp, hr⟩ : p.1 ∉ r.map (·.1) ∧ (r.map (·.1)).Nodup := List.nodup_cons.1 hnd
    rw [get_cons, List.mem_cons, ← ih hr]
    by_cases hk : p.1 = k
    · -- `p` is the field named `k`, and the only one
      have : get r k ≠ some v := fun hg => hp (hk ▸ List.mem_map_of_mem (f := (·.1)) ((ih hr).1 hg))
      simp [hk, this, Prod.ext_iff, eq_comm]
    · have : (k, v) ≠ p := fun e => hk (e ▸ rfl)
      simp [hk, this]

theorem get_perm {h h' : Headers} (hp : h'.Perm h) (hnd : (h.map (·.1)).Nodup) (k : Bytes) :
    get h' k = get h k := by
  have hnd' : (h'.map (·.1)).Nodup := ((hp.map (·.1)).nodup_iff).2 hnd
  apply Option.ext
  intro v
  rw [get_eq_some_iff h' hnd', get_eq_some_iff h hnd]
  exact hp.mem_iff

/-- text the typed API can hold: Rust `String`s (valid UTF-8, of a length that fits memory) -/
def Texts (h : Headers) : Prop :=
  ∀ f ∈ h, Utf8.valid f.1 = true ∧ Utf8.valid f.2 = true ∧ f.1.length < 2^64 ∧ f.2.length < 2^64

/-- a header *map* of Rust strings, as the typed API holds it: distinct names, text values -/
def Wellformed (h : Headers) : Prop := (h.map (·.1)).Nodup ∧ Texts h

/-- **A header map survives the wire**: the map decoded from the HEADERS payload of `h` holds
the same value as `h` under every name. -/
theorem wire_roundtrip (h : Headers) (hnd : (h.map (·.1)).Nodup) (ht : Texts h) :
    ∃ h', withPayload (encode h) = .ok h' ∧ h'.Perm h ∧ ∀ k, get h' k = get h k := by
  have hp := sorted_perm h
  have hnds : ((sorted h).map (·.1)).Nodup := ((hp.map (·.1)).nodup_iff).2 hnd
  have hts : ∀ f ∈ sorted h, Qpack.FieldOk f := fun f hf =>
    have := ht f (hp.mem_iff.1 hf)
    ⟨this.1, this.2.1, Huffman.decode_encode _, Huffman.decode_encode _, this.2.2.1, this.2.2.2⟩
  refine ⟨sorted h, ?_, hp, fun k => get_perm hp hnd k⟩
  unfold withPayload encode
  rw [Qpack.decode_encode _ hts, Qpack.foldl_mapInsert_nodup _ [] (by simpa using hnds)]
  rfl

end Headers
