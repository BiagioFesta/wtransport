/-
Every request `Endpoint::connect` can build is a header *map* of Rust strings: distinct names,
valid UTF-8 — the hypotheses of the wire theorems hold by construction.
-/
import WtVerif.Lemmas.Wire
import WtVerif.Lemmas.QpackBound

namespace Session
open Qpack

theorem mem_mapInsert {m : List Field} {k v : Bytes} {f : Field} (hf : f ∈ mapInsert m k v) :
    f ∈ m ∨ f = (k, v) := by
  unfold mapInsert at hf
  split at hf
  · obtain ⟨p, hp, rfl⟩ := List.mem_map.1 hf
    split
    · exact .inr rfl
    · exact .inl hp
  · simpa using hf

def TextPair (k v : Bytes) : Prop :=
  Utf8.valid k = true ∧ Utf8.valid v = true ∧ k.length < 2^64 ∧ v.length < 2^64

theorem TextPair.of_texts {k v : Bytes} (hk : Utf8.valid k = true ∧ k.length < 2^64)
    (hv : Utf8.valid v = true ∧ v.length < 2^64) : TextPair k v :=
  ⟨hk.1, hv.1, hk.2, hv.2⟩

end Session

/-! ### `HashMap::insert` of Rust strings keeps a map of Rust strings -/

namespace Headers
open Session Qpack

theorem Wellformed.nil : Wellformed [] := ⟨List.nodup_nil, fun _ hf => nomatch hf⟩

theorem Wellformed.insert {h : Headers} {k v : Bytes} (hw : Wellformed h) (hkv : TextPair k v) :
    Wellformed (Headers.insert h k v) :=
  ⟨(Qpack.mapInsert_inv h k v hw.1).1, fun f hf => (mem_mapInsert hf).elim (hw.2 f) fun e => e ▸ hkv⟩

theorem Wellformed.foldl_insert {h : Headers} {l : List Field} (hw : Wellformed h)
    (hl : ∀ f ∈ l, TextPair f.1 f.2) : Wellformed (l.foldl (fun acc f => Headers.insert acc f.1 f.2) h) :=
  List.foldlRecOn l _ hw fun _ hacc f hf => hacc.insert (hl f hf)

end Headers

namespace Session
open Qpack

/-- the fixed names and values are short ASCII literals -/
theorem fixed_texts : TextPair Names.method Names.connect ∧ TextPair Names.scheme Names.https ∧
    TextPair Names.protocol Names.webtransport ∧
    (Utf8.valid Names.authority = true ∧ Names.authority.length < 2^64) ∧
    (Utf8.valid Names.path = true ∧ Names.path.length < 2^64) ∧
    (Utf8.valid Names.status = true ∧ Names.status.length < 2^64) := by
  unfold TextPair; decide

/-- the five-field map `SessionRequest::new` builds (`requestNew`), whatever authority and path text it is given -/
theorem requestNew_wellformed {authority p : Bytes} (ha : Utf8.valid authority = true ∧ authority.length < 2^64)
    (hp : Utf8.valid p = true ∧ p.length < 2^64) :
    Headers.Wellformed ([(Names.method, Names.connect), (Names.scheme, Names.https), (Names.protocol, Names.webtransport),
      (Names.authority, authority), (Names.path, p)].foldl (fun acc f => Headers.insert acc f.1 f.2) []) := by
  obtain ⟨hm, hs, hpr, hau, hpa, _⟩ := fixed_texts
  refine Headers.Wellformed.nil.foldl_insert ?_
  simp only [List.forall_mem_cons]
  exact ⟨hm, hs, hpr, .of_texts hau ha, .of_texts hpa hp, fun _ hf => nomatch hf⟩

/-- inserting the caller's extra fields one after the other (`ConnectOptions::add_header`):
`none` as soon as one of them is reserved -/
def insertAll : Headers → List Field → Option Headers
  | h, [] => some h
  | h, (k, v) :: r => match requestInsert h k v with
    | none => none
    | some h' => insertAll h' r

/-- what every accepted `insert` of one of the fields keeps, `insertAll` keeps -/
theorem insertAll_induction {P : Headers → Prop} {extras : List Field}
    (step : ∀ g g' f, f ∈ extras → P g → requestInsert g f.1 f.2 = some g' → P g') :
    ∀ {h h' : Headers}, insertAll h extras = some h' → P h → P h' := by
  induction extras with
  | nil => intro h h' hi hh; cases hi; exact hh
  | cons f r ih =>
    intro h h' hi hh
    simp only [insertAll] at hi
    split at hi
    · cases hi
    · next g hins =>
      exact ih (fun g g' f' hf' => step g g' f' (List.mem_cons_of_mem _ hf')) hi
        (step h g f List.mem_cons_self hh hins)

theorem requestInsert_eq_some {h h' : Headers} {k v : Bytes} (hins : requestInsert h k v = some h') :
    h' = Headers.insert h k v := by
  unfold requestInsert at hins
  split at hins <;> cases hins
  rfl

theorem insertAll_wellformed {extras : List Field} {h h' : Headers} (hi : insertAll h extras = some h')
    (hw : Headers.Wellformed h) (hx : ∀ f ∈ extras, TextPair f.1 f.2) : Headers.Wellformed h' :=
  insertAll_induction (fun _ _ f hf hg hins => requestInsert_eq_some hins ▸ hg.insert (hx f hf)) hi hw

end Session
