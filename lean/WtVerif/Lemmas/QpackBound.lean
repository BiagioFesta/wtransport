/-
A bound on what the QPACK decoder can produce from `n` input bytes: every field line consumes at
least one byte and contributes at most one static-table row plus eight bytes per consumed byte
(a Huffman-coded byte yields at most eight symbols), so the decoded map is at most
`(maxRow + 8) · n` bytes — no amplification beyond a constant factor.
-/
import WtVerif.Lemmas.Qpack

namespace Qpack

def fsize (f : Field) : Nat := f.1.length + f.2.length
def total (m : List Field) : Nat := (m.map fsize).sum

/-- largest static-table row (name plus value) -/
def maxRow : Nat := (table.map fsize).foldl max 0

theorem le_foldl_max (l : List Nat) : ∀ (a x : Nat), (x ≤ a ∨ x ∈ l) → x ≤ l.foldl max a := by
  induction l with
  | nil => intro a x h; rcases h with h | h; exact h; cases h
  | cons y r ih =>
    intro a x h
    simp only [List.foldl]
    apply ih
    rcases h with h | h
    · left; exact Nat.le_trans h (Nat.le_max_left _ _)
    · rcases List.mem_cons.1 h with rfl | h
      · left; exact Nat.le_max_right _ _
      · right; exact h

theorem row_le_maxRow {i : Nat} {f : Field} (h : table[i]? = some f) : fsize f ≤ maxRow := by
  unfold maxRow
  apply le_foldl_max
  right
  exact List.mem_map_of_mem (List.mem_of_getElem? h)

/-! ### progress of the integer and string readers -/

theorem decodeIntCont_lt : ∀ (bs : Bytes) (value power v : Nat) (r : Bytes),
    decodeIntCont bs value power = .ok (v, r) → r.length < bs.length := by
  intro bs
  induction bs with
  | nil => intro value power v r h; cases h
  | cons b t ih =>
    intro value power v r h
    rw [decodeIntCont_cons] at h
    split at h
    · split at h
      · cases h; exact Nat.lt_succ_self _
      · exact Nat.lt_succ_of_lt (ih _ _ _ _ h)
    · cases h

theorem decodeInt_lt {n : Nat} {bs : Bytes} {f v : Nat} {r : Bytes} (h : decodeInt n bs = .ok (f, v, r)) :
    r.length < bs.length := by
  obtain ⟨b, t, rfl, ⟨-, -, rfl⟩ | ⟨-, hc⟩⟩ := decodeInt_ok h
  · exact Nat.lt_succ_self _
  · exact Nat.lt_succ_of_lt (decodeIntCont_lt _ _ _ _ _ hc)

/-- a decoded string is at most eight times as long as the bytes it was read from -/
theorem decodeString_bound {n : Nat} {bs s rest : Bytes} (h : decodeString n bs = .ok (s, rest)) :
    rest.length < bs.length ∧ s.length ≤ 8 * (bs.length - rest.length) := by
  obtain ⟨flags, len, r, hdi, hlen, rfl, -, hs⟩ := decodeString_ok h
  have hlt := decodeInt_lt hdi
  have htake : (r.take len).length = len := List.length_take_of_le hlen
  rw [List.length_drop]
  rcases hs with rfl | hd
  · rw [htake]; omega
  · have := Huffman.decode_length_le hd
    rw [htake] at this; omega

end Qpack
namespace Qpack

/-! ### the map -/

def Keys (m : List Field) : List Bytes := m.map (·.1)

theorem replace_id (m : List Field) (k v : Bytes) (h : k ∉ Keys m) :
    m.map (fun p => if p.1 = k then (k, v) else p) = m := by
  induction m with
  | nil => rfl
  | cons p r ih =>
    simp only [Keys, List.map_cons, List.mem_cons, not_or] at h
    simp only [List.map_cons]
    rw [if_neg (fun e => h.1 e.symm), ih h.2]

theorem total_replace (m : List Field) (k v : Bytes) (hnd : (Keys m).Nodup) :
    total (m.map (fun p => if p.1 = k then (k, v) else p)) ≤ total m + v.length := by
  induction m with
  | nil => simp [total]
  | cons p r ih =>
    have hnd' : p.1 ∉ Keys r ∧ (Keys r).Nodup := List.nodup_cons.1 hnd
    simp only [List.map_cons]
    by_cases hk : p.1 = k
    · rw [if_pos hk, replace_id r k v (by rw [← hk]; exact hnd'.1)]
      simp only [total, List.map_cons, List.sum_cons, fsize]
      rw [← hk]; omega
    · rw [if_neg hk]
      have := ih hnd'.2
      simp only [total, List.map_cons, List.sum_cons] at this ⊢
      omega

theorem keys_replace (m : List Field) (k v : Bytes) :
    Keys (m.map (fun p => if p.1 = k then (k, v) else p)) = Keys m := by
  induction m with
  | nil => rfl
  | cons p r ih =>
    simp only [Keys, List.map_cons] at ih ⊢
    rw [ih]
    by_cases hk : p.1 = k
    · rw [if_pos hk, hk]
    · rw [if_neg hk]

theorem mapInsert_inv (m : List Field) (k v : Bytes) (hnd : (Keys m).Nodup) :
    (Keys (mapInsert m k v)).Nodup ∧ total (mapInsert m k v) ≤ total m + k.length + v.length := by
  unfold mapInsert
  split
  · refine ⟨by rw [keys_replace]; exact hnd, ?_⟩
    have := total_replace m k v hnd
    omega
  · rename_i hany
    refine ⟨?_, ?_⟩
    · simp only [Keys, List.map_append, List.map_cons, List.map_nil]
      rw [List.nodup_append]
      refine ⟨hnd, by simp, ?_⟩
      intro a ha b hb
      simp only [List.mem_singleton] at hb
      subst hb
      intro e
      subst e
      apply hany
      obtain ⟨p, hp, hpk⟩ := List.mem_map.1 ha
      exact List.any_eq_true.2 ⟨p, hp, by simpa using hpk⟩
    · simp [total, fsize]; omega

/-! ### the lines loop -/

/-- a turn of the lines loop that succeeds has read one field `(k, v)`: input was consumed, and the
field is at most a table row and eight bytes per byte consumed -/
theorem decodeLines_succ_ok {fuel : Nat} {b : UInt8} {r : Bytes} {acc m : List Field}
    (h : decodeLines (fuel + 1) (b :: r) acc = .ok m) :
    ∃ k v rest, decodeLines fuel rest (mapInsert acc k v) = .ok m ∧ rest.length < (b :: r).length ∧
      k.length + v.length ≤ maxRow + 8 * ((b :: r).length - rest.length) := by
  simp only [decodeLines] at h
  -- (`split` on the two tests with a reader under them is slow: each carries the whole loop body)
  by_cases c1 : b.toNat / 128 = 1
  · rw [if_pos c1] at h
    split at h
    · cases h
    · split at h
      · cases h
      · rename_i idx r' hdi
        split at h
        · cases h
        · rename_i k v ht
          -- indexed: name and value are the row
          have := decodeInt_lt hdi
          have : k.length + v.length ≤ maxRow := row_le_maxRow ht
          exact ⟨k, v, r', h, by omega, by omega⟩
  · rw [if_neg c1] at h
    split at h
    · cases h
    · by_cases c3 : b.toNat / 64 = 1
      · rw [if_pos c3] at h
        split at h
        · cases h
        · split at h
          · cases h
          · rename_i idx r' hdi
            split at h
            · cases h
            · rename_i k v0 ht
              split at h
              · cases h
              · rename_i v r'' hds
                -- name reference: the name is part of the row, the value a string
                have := decodeInt_lt hdi
                have := decodeString_bound hds
                have : k.length + v0.length ≤ maxRow := row_le_maxRow ht
                exact ⟨k, v, r'', h, by omega, by omega⟩
      · rw [if_neg c3] at h
        split at h
        · cases h
        · split at h
          · cases h
          · rename_i k r' hdk
            split at h
            · cases h
            · rename_i v r'' hdv
              -- literal: two strings
              have := decodeString_bound hdk
              have := decodeString_bound hdv
              exact ⟨k, v, r'', h, by omega, by omega⟩

/-- what a field may add, and what the rest may add, is within the allowance for the whole input -/
theorem line_le {M x rest bs : Nat} (hlt : rest < bs) (hx : x ≤ M + 8 * (bs - rest)) :
    x + (M + 8) * rest ≤ (M + 8) * bs := by
  obtain ⟨d, rfl⟩ : ∃ d, bs = rest + (d + 1) := ⟨bs - rest - 1, by omega⟩
  rw [Nat.add_sub_cancel_left] at hx
  rw [Nat.mul_add (M + 8) rest, Nat.add_mul M 8 (d + 1), Nat.mul_succ M d]
  omega

/-- **No amplification**: the lines loop adds at most `(maxRow + 8)` bytes of decoded fields per
input byte, keeps names distinct, for every input and any number of turns. -/
theorem decodeLines_bound : ∀ (fuel : Nat) (bs : Bytes) (acc m : List Field),
    decodeLines fuel bs acc = .ok m → (Keys acc).Nodup →
    (Keys m).Nodup ∧ total m ≤ total acc + (maxRow + 8) * bs.length := by
  intro fuel
  induction fuel with
  | zero =>
    intro bs acc m h hnd
    cases h
    exact ⟨hnd, Nat.le_add_right _ _⟩
  | succ n ih =>
    intro bs acc m h hnd
    cases bs with
    | nil =>
      cases h
      exact ⟨hnd, Nat.le_add_right _ _⟩
    | cons b r =>
      obtain ⟨k, v, rest, hrec, hlt, hsz⟩ := decodeLines_succ_ok h
      obtain ⟨h1, h2⟩ := mapInsert_inv acc k v hnd
      obtain ⟨g1, g2⟩ := ih rest _ m hrec h1
      have := line_le hlt hsz
      exact ⟨g1, by omega⟩

/-- **The decoder's output is bounded by a constant times its input**, for every input. -/
theorem decode_bound {bs : Bytes} {m : List Field} (h : decode bs = .ok m) :
    total m ≤ (maxRow + 8) * bs.length := by
  unfold decode at h
  split at h
  · cases h
  · rename_i f1 v1 r1 h1
    split at h
    · cases h
    · rename_i f2 v2 r2 h2
      have l1 := decodeInt_lt h1
      have l2 := decodeInt_lt h2
      have := (decodeLines_bound _ r2 [] m h (by simp [Keys])).2
      simp only [total, List.map_nil, List.sum_nil, Nat.zero_add] at this
      calc total m ≤ (maxRow + 8) * r2.length := this
        _ ≤ (maxRow + 8) * bs.length := Nat.mul_le_mul_left _ (by omega)

theorem maxRow_value : maxRow = 76 := by decide +kernel

end Qpack
