import WtVerif.Ids

namespace Ids

/-- bit 1 of `v`, read off the quotient and the remainder of `v &&& 2` by 2 -/
theorem and_two_eq_zero_iff (v : Nat) : v &&& 2 = 0 ↔ v / 2 % 2 = 0 := by
  have hd : (v &&& 2) / 2 = v / 2 % 2 := by rw [Nat.and_div_two, Nat.and_one_is_mod]
  have hm : (v &&& 2) % 2 = 0 := by simpa using Nat.and_mod_two_pow (a := v) (b := 2) (n := 1)
  omega

theorem isBidirectional_iff (v : Nat) : isBidirectional v = true ↔ v / 2 % 2 = 0 := by
  simp [isBidirectional, and_two_eq_zero_iff]

theorem isClientInitiated_iff (v : Nat) : isClientInitiated v = true ↔ v % 2 = 0 := by
  simp [isClientInitiated, Nat.and_one_is_mod]

/-- a session id is a stream id whose two low bits are zero, and is passed on unchanged -/
theorem sessionIdTry_eq (v : Nat) : sessionIdTry v = if v % 4 = 0 then some v else none := by
  have h : (isBidirectional v && isClientInitiated v) = true ↔ v % 4 = 0 := by
    rw [Bool.and_eq_true, isBidirectional_iff, isClientInitiated_iff]; omega
  simp only [sessionIdTry, h]

theorem sessionIdTry_eq_some {v s : Nat} : sessionIdTry v = some s ↔ v % 4 = 0 ∧ s = v := by
  rw [sessionIdTry_eq]; split <;> simp [*, @eq_comm _ v s]

theorem sessionIdTry_some_iff (v : Nat) : sessionIdTry v = some v ↔ v % 4 = 0 := by
  simp [sessionIdTry_eq_some]

theorem qMax_eq : qMax = 2^60 - 1 := rfl

theorem qTry_eq_some {v q : Nat} : qTry v = some q ↔ v ≤ qMax ∧ q = v := by
  unfold qTry; split <;> simp [*, @eq_comm _ v q]

theorem qOfSession_eq (s : Nat) : qOfSession s = s / 4 := by
  simp [qOfSession, Nat.shiftRight_eq_div_pow]

theorem sessionOfQ_eq (q : Nat) (h : q < 2^62) : sessionOfQ q = q * 4 := by
  simp only [sessionOfQ, Nat.shiftLeft_eq]
  exact Nat.mod_eq_of_lt (by omega)

theorem isSuccessful_iff (c : Nat) : isSuccessful c = true ↔ 200 ≤ c ∧ c ≤ 299 := by
  simp only [isSuccessful, Generated.STATUS_SUCCESS_LO, Generated.STATUS_SUCCESS_HI, Bool.and_eq_true,
    decide_eq_true_eq]
  omega

end Ids
