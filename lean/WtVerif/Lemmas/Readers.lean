/-
The one-shot, buffered and asynchronous readers of frames and stream headers are one function.
-/
import WtVerif.Lemmas.Async
import WtVerif.Frame
import WtVerif.StreamHeader

open Varint

variable {ε α : Type}

/-! ### `ImmediateFin` can only come from the very first byte -/

/-- no await of the reader passes `ImmediateFin` through -/
def Prog.NoFirst : Prog ε α → Prop
  | .ret _ => True
  | .fail _ => True
  | .varint first k => first = false ∧ ∀ v, (k v).NoFirst
  | .buffer first _ k => first = false ∧ ∀ b, (k b).NoFirst

theorem Prog.NoFirst.sync_ne {p : Prog ε α} (h : p.NoFirst) : ∀ bs, p.sync bs ≠ .needMore true := by
  induction p with
  | ret a => intro bs hs; cases hs
  | fail e => intro bs hs; cases hs
  | varint first k ih =>
    intro bs
    rw [Prog.sync_varint, awaitSync, h.1]
    cases dec bs with
    | none => simp
    | some pr => exact ih pr.1 (h.2 pr.1) pr.2
  | buffer first n k ih =>
    intro bs
    rw [Prog.sync_buffer, awaitSync, h.1]
    cases takeN n bs with
    | none => simp
    | some pr => exact ih pr.1 (h.2 pr.1) pr.2

theorem skipProg_noFirst {k : Prog ε α} (hk : k.NoFirst) : ∀ n, (skipProg n k).NoFirst := by
  intro n
  induction n using Nat.strongRecOn with
  | _ n ih =>
    unfold skipProg
    split
    · exact hk
    · exact ⟨rfl, fun _ => ih _ (by omega)⟩

/-- a reader whose first await is the only one that passes `ImmediateFin` through reports "nothing at
all was available" exactly on the empty input -/
theorem Prog.atStart_iff_nil {k : Nat → Prog ε α} (hk : ∀ v, (k v).NoFirst) {bs : Bytes} {f : Bool}
    (h : (Prog.varint true k).sync bs = .needMore f) : f = bs.isEmpty := by
  rw [Prog.sync_varint, awaitSync] at h
  cases hd : dec bs with
  | none => rw [hd] at h; cases h; simp
  | some pr =>
    rw [hd] at h
    have hne : bs ≠ [] := by intro e; rw [e] at hd; cases hd
    cases f with
    | true => exact absurd h ((hk pr.1).sync_ne pr.2)
    | false => cases bs with
      | nil => exact absurd rfl hne
      | cons _ _ => rfl

/-- … so the I/O error such a reader reports at an end of the source depends on whether the source was empty -/
theorem ProgSpec.io_atStart {p : Prog ε α} (hp : ∃ k, p = .varint true k ∧ ∀ v, (k v).NoFirst) {s s' : Src}
    {e : IoErr} {o' : List Poll} (h : ProgSpec p s (.done (.io e) s' o')) :
    (∃ f, p.sync s.rest = .needMore f) ∧ tailErr s.tail s.rest.isEmpty = some e := by
  obtain ⟨k, rfl, hk⟩ := hp
  obtain ⟨a, hs, hte, _⟩ := h
  exact ⟨⟨a, hs⟩, by rw [← Prog.atStart_iff_nil hk hs]; exact hte⟩

namespace Frame

/-- reading the one-shot meaning of `read_async` as a `Frame::read` result -/
def ofSync : SyncRes FrameParseError Frame → FrameRead
  | .ok f rest => .frame f rest
  | .parse .unknownFrame rest => .unknown rest
  | .parse .invalidSessionId _ => .invalidSessionId
  | .parse .payloadTooBig _ => .payloadTooBig
  | .needMore _ => .needMore

/-- an ignorable frame's payload is skipped whole, once it is all there -/
theorem skipPayload_unknown {len : Nat} {r rest : Bytes} (h : skipPayload len r = .unknown rest) :
    len ≤ r.length ∧ rest = r.drop len := by
  unfold skipPayload at h
  split at h
  · cases h
  · cases h; exact ⟨by omega, rfl⟩

theorem skip_ofSync (len : Nat) (r : Bytes) :
    ofSync ((skipProg len (.fail .unknownFrame : Prog FrameParseError Frame)).sync r) = skipPayload len r := by
  rw [skipProg_sync]
  unfold skipPayload
  split <;> simp [ofSync, Prog.sync]

/-- `Frame::read` (written for slices) and `Frame::read_async` (written await by await) compute
the same function of the bytes. -/
theorem read_eq_sync (bs : Bytes) : read bs = ofSync (readAsync.sync bs) := by
  unfold read readAsync
  simp only [Prog.sync]
  cases dec bs with
  | none => rfl
  | some p =>
    obtain ⟨kindId, r1⟩ := p
    simp only
    cases FrameKind.parse kindId with
    | none =>
      simp only [Prog.sync]
      cases dec r1 with
      | none => rfl
      | some p2 => exact (skip_ofSync p2.1 p2.2).symm
    | some kind =>
      cases kind
      case webtransport =>
        simp only [Prog.sync]
        cases dec r1 with
        | none => rfl
        | some p2 => simp only; cases Ids.sessionIdTry p2.1 <;> rfl
      -- every other kind: length, limit test, payload
      all_goals
        simp only [Prog.sync, FrameKind.isExercise]
        cases dec r1 with
        | none => rfl
        | some p2 =>
          simp only
          split
          · first | rfl | exact (skip_ofSync p2.1 p2.2).symm
          · simp only [Prog.sync]; split <;> rfl

theorem sync_nil : readAsync.sync [] = .needMore true := rfl

theorem readAsync_noFirst : ∃ k, readAsync = .varint true k ∧ ∀ v, (k v).NoFirst := by
  refine ⟨_, rfl, fun kindId => ?_⟩
  have hskip : ∀ n, (skipProg n (.fail .unknownFrame : Prog FrameParseError Frame)).NoFirst :=
    skipProg_noFirst trivial
  cases FrameKind.parse kindId with
  | none => exact ⟨rfl, hskip⟩
  | some kind =>
    cases kind
    case webtransport => exact ⟨rfl, fun sid => by simp only; cases Ids.sessionIdTry sid <;> trivial⟩
    all_goals
      refine ⟨rfl, fun len => ?_⟩
      simp only
      split
      · split
        · exact hskip len
        · trivial
      · exact ⟨rfl, fun _ => trivial⟩

theorem read_consumed {bs rest : Bytes}
    (h : (∃ f, read bs = .frame f rest) ∨ read bs = .unknown rest) :
    (readAsync.sync bs).LeavesRest rest := by
  rw [read_eq_sync] at h
  cases hs : readAsync.sync bs with
  | ok f r => rw [hs] at h; simpa [ofSync, SyncRes.LeavesRest] using h
  | parse e r => rw [hs] at h; cases e <;> simp [ofSync] at h <;> exact h
  | needMore f => rw [hs] at h; simp [ofSync] at h

/-- a frame that was read, or skipped, came off the front of the input … -/
theorem read_suffix {bs rest : Bytes} (h : (∃ f, read bs = .frame f rest) ∨ read bs = .unknown rest) :
    ∃ c, bs = c ++ rest :=
  (Prog.sync_prefixReader _ _ _ (read_consumed h)).imp fun _ hc => hc.1

/-- … and took at least its type byte: this is what makes the `loop { … continue }` of the typestates terminate -/
theorem read_lt {bs rest : Bytes} (h : (∃ f, read bs = .frame f rest) ∨ read bs = .unknown rest) :
    rest.length < bs.length :=
  Prog.sync_varint_lt (read_consumed h)

theorem read_unknown_lt {bs rest : Bytes} (h : read bs = .unknown rest) : rest.length < bs.length :=
  read_lt (Or.inr h)

theorem read_frame_lt {bs rest : Bytes} {f : Frame} (h : read bs = .frame f rest) : rest.length < bs.length :=
  read_lt (Or.inl ⟨f, h⟩)

end Frame

namespace StreamHeader

def ofSync : SyncRes HeaderParseError StreamHeader → HeaderRead
  | .ok h rest => .header h rest
  | .parse .unknownStream _ => .unknownStream
  | .parse .invalidSessionId _ => .invalidSessionId
  | .needMore _ => .needMore

theorem read_eq_sync (bs : Bytes) : read bs = ofSync (readAsync.sync bs) := by
  unfold read readAsync
  simp only [Prog.sync]
  cases dec bs with
  | none => rfl
  | some p =>
    obtain ⟨kindId, r1⟩ := p
    simp only
    cases StreamKind.parse kindId with
    | none => rfl
    | some kind =>
      cases kind
      case webtransport =>
        simp only [Prog.sync]
        cases dec r1 with
        | none => rfl
        | some p2 => simp only; cases Ids.sessionIdTry p2.1 <;> rfl
      all_goals rfl

theorem sync_nil : readAsync.sync [] = .needMore true := rfl

theorem readAsync_noFirst : ∃ k, readAsync = .varint true k ∧ ∀ v, (k v).NoFirst := by
  refine ⟨_, rfl, fun kindId => ?_⟩
  cases StreamKind.parse kindId with
  | none => trivial
  | some kind =>
    cases kind
    case webtransport => exact ⟨rfl, fun sid => by simp only; cases Ids.sessionIdTry sid <;> trivial⟩
    all_goals trivial

theorem read_consumed {bs rest : Bytes} (h : ∃ hd, read bs = .header hd rest) :
    (readAsync.sync bs).LeavesRest rest := by
  obtain ⟨hd, h⟩ := h
  rw [read_eq_sync] at h
  cases hs : readAsync.sync bs with
  | ok f r => rw [hs] at h; cases h; rfl
  | parse e r => rw [hs] at h; cases e <;> cases h
  | needMore f => rw [hs] at h; cases h

end StreamHeader
