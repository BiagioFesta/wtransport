/-
Unfolding equations of the well-founded definitions of the control-plane model, and the basic
facts about ignorable elements.
-/
import WtVerif.Driver.Worker
import WtVerif.Lemmas.Frame

open Varint

namespace Ts

theorem readFrame_eq (role : Role) (st : Bool) (bs : Bytes) :
    readFrame role st bs =
      match Frame.read bs with
      | .frame f rest =>
        (match (validate role st f).2 with
          | .ok f' => ((validate role st f).1, .frame f' rest)
          | .error e => ((validate role st f).1, .err e))
      | .needMore => (st, .needMore)
      | .unknown rest => readFrame role st rest
      | .invalidSessionId => (st, .err .id)
      | .payloadTooBig => (st, .err .excessiveLoad) := by
  generalize hfr : Frame.read bs = fr
  rw [readFrame]
  split <;> rename_i hr <;> (rw [hfr] at hr; subst hr) <;> rfl

/-- the first element on the stream is a frame as `Frame::write` wrote it: `validate` decides -/
theorem readFrame_write (role : Role) (st : Bool) (f : Frame) (rest : Bytes) (hwf : Frame.WF f)
    (hid : f.kind.id < 2^62) (hlen : f.payload.length ≤ Frame.maxParsePayload) :
    readFrame role st (Frame.write f ++ rest) =
      match (validate role st f).2 with
      | .ok f' => ((validate role st f).1, .frame f' rest)
      | .error e => ((validate role st f).1, .err e) := by
  rw [readFrame_eq, Frame.read_write f rest hwf hid hlen]

theorem readFrame_plain (role : Role) (st : Bool) {k : FrameKind} (hk : k = .data ∨ k = .headers ∨ k = .settings)
    (payload rest : Bytes) (hlen : payload.length ≤ Frame.maxParsePayload) :
    readFrame role st (Frame.write ⟨k, payload, none⟩ ++ rest) =
      match (validate role st ⟨k, payload, none⟩).2 with
      | .ok f' => ((validate role st ⟨k, payload, none⟩).1, .frame f' rest)
      | .error e => ((validate role st ⟨k, payload, none⟩).1, .err e) := by
  rw [readFrame_eq, Frame.read_write_plain hk payload rest hlen]

end Ts

namespace Worker

theorem afterIgnorable_eq (bs : Bytes) :
    afterIgnorable bs = match Frame.read bs with
      | .unknown rest => afterIgnorable rest
      | _ => bs := by
  generalize hfr : Frame.read bs = fr
  rw [afterIgnorable]
  split
  · rename_i rest hr; rw [hfr] at hr; subst hr; rfl
  · rename_i hne
    cases fr with
    | unknown rest => exact absurd hfr (hne rest)
    | _ => rfl

theorem connectRun_eq (bs : Bytes) (t : StreamEnd) :
    connectRun bs t =
      match Ts.readFrame .session false bs with
      | (_, .frame f rest) =>
        if f.kind ≠ .data then connectRun rest t
        else
          match Capsule.withPayload f.payload with
          | none => connectRun rest t
          | some p =>
            match Capsule.closeSession p with
            | .ok (code, reason) => some (.appClosed code reason)
            | .error e => some (.proto e)
      | (_, .err e) => some (.proto e)
      | (_, .needMore) =>
        match endOf (afterIgnorable bs) t with
        | .immediateFin => some (.appClosed 0 [])
        | .h3Frame => some (.proto .frame)
        | .reset => some (.proto .closedCriticalStream)
        | .notConnected => some .notConnected
        | .pending => none := by
  generalize hfr : Ts.readFrame .session false bs = fr
  rw [connectRun]
  split <;> rename_i hr <;> (rw [hfr] at hr; subst hr) <;> rfl

theorem controlRun_eq (bs : Bytes) (t : StreamEnd) (seen : Option Settings) :
    controlRun bs t seen =
      match Ts.readFrame .uniRemote false bs with
      | (_, .frame f rest) =>
        (match seen with
        | none =>
          if f.kind ≠ .settings then (none, some (.proto .missingSettings))
          else match Settings.withPayload f.payload [] with
            | .ok s => controlRun rest t (some s)
            | .error e => (none, some (.proto e))
        | some s =>
          if f.kind.isExercise then controlRun rest t (some s)
          else (some s, some (.proto .frameUnexpected)))
      | (_, .err e) => (seen, some (.proto e))
      | (_, .needMore) =>
        match endOf (afterIgnorable bs) t with
        | .immediateFin => (seen, some (.proto .closedCriticalStream))
        | .h3Frame => (seen, some (.proto .frame))
        | .reset => (seen, some (.proto .closedCriticalStream))
        | .notConnected => (seen, some .notConnected)
        | .pending => (seen, none) := by
  generalize hfr : Ts.readFrame .uniRemote false bs = fr
  rw [controlRun]
  split <;> rename_i hr <;> (rw [hfr] at hr; subst hr) <;> rfl

theorem biTask_eq (bs : Bytes) (t : StreamEnd) (fd : Bool) :
    biTask bs t fd =
      match Ts.readFrame .biRemote fd bs with
      | (st, .frame f rest) =>
        if f.kind.isExercise then biTask rest t st
        else
          match Frame.sessionIdOf f with
          | some s => .webtransport s rest
          | none =>
            match f.kind with
            | .data => .connectionError .frameUnexpected
            | .headers =>
              match Session.admitRequest f.payload with
              | .session hds => .session hds
              | .refuseStream e => .refuseStream e
              | .connectionError e => .connectionError e
            | .settings => .connectionError .frameUnexpected
            | _ => .dropped
      | (_, .err e) => .connectionError e
      | (_, .needMore) =>
        match endOf (afterIgnorable bs) t with
        | .immediateFin => .dropped
        | .h3Frame => .connectionError .frame
        | .reset | .notConnected => .dropped
        | .pending => .pending := by
  generalize hfr : Ts.readFrame .biRemote fd bs = fr
  rw [biTask]
  split <;> rename_i hr <;> (rw [hfr] at hr; subst hr) <;> rfl

end Worker

namespace Settings

theorem withPayload_nil (acc : Settings) : withPayload [] acc = .ok acc := by
  rw [withPayload]; simp

theorem withPayload_eq (bs : Bytes) (acc : Settings) (hne : bs ≠ []) :
    withPayload bs acc =
      match Varint.dec bs with
      | none => .error .frame
      | some (id, r1) =>
        match Varint.dec r1 with
        | none => .error .frame
        | some (value, r2) =>
          match SettingId.parse id with
          | .ok sid =>
            if (get acc sid).isSome then .error .settings
            else withPayload r2 (acc ++ [(sid, value)])
          | .error .unknown => withPayload r2 acc
          | .error .reserved => .error .settings := by
  fun_cases withPayload bs acc
  all_goals first | simp_all | (simp only [*]; rfl)

end Settings

namespace Settings

/-- one turn of `with_frame`'s loop, on a payload that starts with an encoded pair -/
theorem withPayload_pair (id v : Nat) (rest : Bytes) (acc : Settings) (hid : id < 2^62) (hv : v < 2^62) :
    withPayload (enc id ++ enc v ++ rest) acc =
      match SettingId.parse id with
      | .ok sid => if (get acc sid).isSome then .error .settings else withPayload rest (acc ++ [(sid, v)])
      | .error .unknown => withPayload rest acc
      | .error .reserved => .error .settings := by
  rw [withPayload_eq _ _ (by simp [enc_ne_nil]), List.append_assoc, dec_enc _ hid]
  simp only
  rw [dec_enc _ hv]

end Settings

theorem Ts.readFrame_needMore (role : Role) (st : Bool) {bs : Bytes} (h : Frame.read bs = .needMore) :
    Ts.readFrame role st bs = (st, .needMore) := by
  rw [Ts.readFrame_eq, h]

namespace Worker

theorem afterIgnorable_needMore {bs : Bytes} (h : Frame.read bs = .needMore) : afterIgnorable bs = bs := by
  rw [afterIgnorable_eq, h]

/-- when the next element is incomplete, the way the stream ends decides -/
theorem connectRun_needMore {bs : Bytes} (h : Frame.read bs = .needMore) (t : StreamEnd) :
    connectRun bs t =
      match endOf bs t with
      | .immediateFin => some (.appClosed 0 [])
      | .h3Frame => some (.proto .frame)
      | .reset => some (.proto .closedCriticalStream)
      | .notConnected => some .notConnected
      | .pending => none := by
  rw [connectRun_eq, Ts.readFrame_needMore _ _ h, afterIgnorable_needMore h]

theorem controlRun_needMore {bs : Bytes} (h : Frame.read bs = .needMore) (t : StreamEnd) (seen : Option Settings) :
    controlRun bs t seen =
      match endOf bs t with
      | .immediateFin => (seen, some (.proto .closedCriticalStream))
      | .h3Frame => (seen, some (.proto .frame))
      | .reset => (seen, some (.proto .closedCriticalStream))
      | .notConnected => (seen, some .notConnected)
      | .pending => (seen, none) := by
  rw [controlRun_eq, Ts.readFrame_needMore _ _ h, afterIgnorable_needMore h]

theorem biTask_needMore {bs : Bytes} (h : Frame.read bs = .needMore) (t : StreamEnd) (fd : Bool) :
    biTask bs t fd =
      match endOf bs t with
      | .immediateFin => .dropped
      | .h3Frame => .connectionError .frame
      | .reset | .notConnected => .dropped
      | .pending => .pending := by
  rw [biTask_eq, Ts.readFrame_needMore _ _ h, afterIgnorable_needMore h]

/-- what `ConnectStream::run` does with a DATA frame: only a close capsule ends the session -/
theorem connectRun_data (payload rest : Bytes) (t : StreamEnd) (hlen : payload.length ≤ Frame.maxParsePayload) :
    connectRun (Frame.write ⟨.data, payload, none⟩ ++ rest) t =
      match Capsule.withPayload payload with
      | none => connectRun rest t
      | some p =>
        match Capsule.closeSession p with
        | .ok (code, reason) => some (.appClosed code reason)
        | .error e => some (.proto e) := by
  rw [connectRun_eq, Ts.readFrame_plain _ _ (.inl rfl) _ _ hlen]
  rfl

end Worker
