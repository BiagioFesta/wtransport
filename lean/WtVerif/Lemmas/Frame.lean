import WtVerif.Frame
import WtVerif.StreamHeader
import WtVerif.Datagram
import WtVerif.Lemmas.VarintSize
import WtVerif.Lemmas.Ids

open Varint

namespace FrameKind

theorem parse_id_exercise {id : Nat} (h : isIdExercise id = true) : parse id = some (.exercise id) := by
  unfold parse
  simp only [isIdExercise, isGrease_iff, Generated.GREASE_BASE, Generated.GREASE_STEP] at h
  simp only [Generated.FRAME_DATA, Generated.FRAME_HEADERS, Generated.FRAME_SETTINGS,
    Generated.FRAME_WEBTRANSPORT_STREAM]
  have h0 : id ≠ 0 := by omega
  have h1 : id ≠ 1 := by omega
  have h4 : id ≠ 4 := by omega
  have h65 : id ≠ 65 := by omega
  simp [h0, h1, h4, h65, isIdExercise, isGrease, Generated.GREASE_BASE, Generated.GREASE_STEP, h.1, h.2]

/-- `parse` is a left inverse of `id` on every kind `Frame::new` can hold -/
theorem parse_id (k : FrameKind) (h : ∀ i, k = .exercise i → isIdExercise i = true) :
    parse k.id = some k := by
  cases k with
  | exercise i => exact parse_id_exercise (h i rfl)
  | _ => simp [parse, id, Generated.FRAME_DATA, Generated.FRAME_HEADERS, Generated.FRAME_SETTINGS,
      Generated.FRAME_WEBTRANSPORT_STREAM]

theorem parse_some_id {i : Nat} {k : FrameKind} (h : parse i = some k) : k.id = i := by
  unfold parse at h
  -- arm by arm, in source order
  by_cases h0 : i = Generated.FRAME_DATA
  · rw [if_pos h0] at h; cases h; exact h0.symm
  rw [if_neg h0] at h
  by_cases h1 : i = Generated.FRAME_HEADERS
  · rw [if_pos h1] at h; cases h; exact h1.symm
  rw [if_neg h1] at h
  by_cases h2 : i = Generated.FRAME_SETTINGS
  · rw [if_pos h2] at h; cases h; exact h2.symm
  rw [if_neg h2] at h
  by_cases h3 : i = Generated.FRAME_WEBTRANSPORT_STREAM
  · rw [if_pos h3] at h; cases h; exact h3.symm
  rw [if_neg h3] at h
  by_cases h4 : isIdExercise i = true
  · rw [if_pos h4] at h; cases h; rfl
  · rw [if_neg h4] at h; cases h

end FrameKind

namespace Frame

theorem write_length (f : Frame) : (write f).length = writeSize f := by
  unfold write writeSize
  cases h : sessionIdOf f <;> simp [enc_length, Nat.add_assoc]

/-- Round trip of one frame followed by arbitrary further bytes. -/
theorem read_write (f : Frame) (rest : Bytes) (hwf : WF f) (hid : f.kind.id < 2^62)
    (hlen : f.payload.length ≤ maxParsePayload) :
    read (write f ++ rest) = .frame f rest := by
  have hmp : maxParsePayload = 4096 := rfl
  obtain ⟨kind, payload, sid⟩ := f
  have hparse : FrameKind.parse kind.id = some kind :=
    FrameKind.parse_id kind (fun i hk => by subst hk; exact hwf.1)
  cases kind
  case webtransport =>
    obtain ⟨hp, s, hs, htry, hlt⟩ := hwf
    subst hp hs
    simp only [write, sessionIdOf, List.append_assoc, read]
    rw [dec_enc _ hid]
    simp only [hparse]
    rw [dec_enc _ hlt]
    simp [htry]
  -- every other kind carries no session id: type, length, payload
  all_goals
    obtain rfl : sid = none := by first | exact hwf | exact hwf.2.2
    simp only at hlen
    simp only [write, sessionIdOf, List.append_assoc, read]
    rw [dec_enc _ hid]
    simp only [hparse]
    rw [dec_enc _ (by omega)]
    simp [show ¬ payload.length > maxParsePayload by omega]

/-- … for the three kinds that need no side condition -/
theorem read_write_plain {k : FrameKind} (hk : k = .data ∨ k = .headers ∨ k = .settings) (payload rest : Bytes)
    (hlen : payload.length ≤ maxParsePayload) :
    read (write ⟨k, payload, none⟩ ++ rest) = .frame ⟨k, payload, none⟩ rest := by
  rcases hk with rfl | rfl | rfl <;> exact read_write _ rest rfl (by simp only; decide) hlen

end Frame

namespace StreamKind

theorem parse_id_exercise {id : Nat} (h : isIdExercise id = true) : parse id = some (.exercise id) := by
  unfold parse
  simp only [isIdExercise, isGrease_iff, Generated.STREAM_GREASE_BASE, Generated.STREAM_GREASE_STEP] at h
  simp only [Generated.STREAM_CONTROL_STREAM, Generated.STREAM_QPACK_ENCODER_STREAM,
    Generated.STREAM_QPACK_DECODER_STREAM, Generated.STREAM_WEBTRANSPORT_STREAM]
  have h0 : id ≠ 0 := by omega
  have h1 : id ≠ 2 := by omega
  have h4 : id ≠ 3 := by omega
  have h65 : id ≠ 84 := by omega
  simp [h0, h1, h4, h65, isIdExercise, isGrease, Generated.STREAM_GREASE_BASE,
    Generated.STREAM_GREASE_STEP, h.1, h.2]

theorem parse_id (k : StreamKind) (h : ∀ i, k = .exercise i → isIdExercise i = true) :
    parse k.id = some k := by
  cases k with
  | exercise i => exact parse_id_exercise (h i rfl)
  | _ => simp [parse, id, Generated.STREAM_CONTROL_STREAM, Generated.STREAM_QPACK_ENCODER_STREAM,
    Generated.STREAM_QPACK_DECODER_STREAM, Generated.STREAM_WEBTRANSPORT_STREAM]

end StreamKind

namespace StreamHeader

theorem write_length (h : StreamHeader) : (write h).length = writeSize h := by
  unfold write writeSize
  cases hh : sessionIdOf h <;> simp [enc_length]

theorem read_write (h : StreamHeader) (rest : Bytes) (hwf : WF h) (hid : h.kind.id < 2^62) :
    read (write h ++ rest) = .header h rest := by
  obtain ⟨kind, sid⟩ := h
  have hparse : StreamKind.parse kind.id = some kind :=
    StreamKind.parse_id kind (fun i hk => by subst hk; exact hwf.1)
  cases kind
  case webtransport =>
    obtain ⟨s, hs, htry, hlt⟩ := hwf
    subst hs
    simp only [write, sessionIdOf, List.append_assoc, read]
    rw [dec_enc _ hid]
    simp only [hparse]
    rw [dec_enc _ hlt]
    simp [htry]
  all_goals
    obtain rfl : sid = none := by first | exact hwf | exact hwf.2.2
    simp only [write, sessionIdOf, List.append_assoc, read, List.nil_append]
    rw [dec_enc _ hid]
    simp only [hparse]

end StreamHeader

namespace Datagram

/-- an HTTP/3 datagram is accepted iff it starts with a varint that is a quarter stream id; its payload is
what the varint leaves -/
theorem read_eq_ok {quic : Bytes} {q : Nat} {p : Bytes} :
    read quic = .ok q p ↔ dec quic = some (q, p) ∧ q ≤ Ids.qMax := by
  unfold read Ids.qTry
  cases dec quic with
  | none => simp
  | some vr =>
    obtain ⟨v, rest⟩ := vr
    by_cases hv : v ≤ Ids.qMax
    · simp only [hv, if_true]
      constructor
      · rintro ⟨⟩; exact ⟨rfl, hv⟩
      · rintro ⟨⟨⟩, _⟩; rfl
    · simp only [hv, if_false]
      constructor
      · rintro ⟨⟩
      · rintro ⟨⟨⟩, h⟩; exact absurd h hv

theorem read_write (q : Nat) (payload : Bytes) (hq : q ≤ Ids.qMax) :
    read (enc q ++ payload) = .ok q payload :=
  read_eq_ok.2 ⟨dec_enc q (by rw [Ids.qMax_eq] at hq; omega) payload, hq⟩

/-- the datagram handed to the application names the session of the accepted quarter id, and its payload
view (`payload_offset`) is the payload `read` returned -/
theorem appRead_eq_some {quic : Bytes} {d : App} (h : appRead quic = some d) :
    ∃ q, read quic = .ok q d.payload ∧ d.sessionId = Ids.sessionOfQ q := by
  unfold appRead at h
  cases hr : read quic with
  | err => rw [hr] at h; cases h
  | ok q p =>
    rw [hr] at h; cases h
    obtain ⟨c, hc, _⟩ := dec_some_split (read_eq_ok.1 hr).1
    exact ⟨q, by simp [App.payload, hc], rfl⟩

end Datagram
