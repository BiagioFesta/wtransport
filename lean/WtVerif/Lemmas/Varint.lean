/-
What `Varint.dec` reads and what `Varint.enc` writes, without reference to any regenerated constant (the
driver imports this file through the termination proofs of the model): a successful decode has consumed a
*full* buffer — one whose first byte announces the buffer's own length — and `enc` produces exactly such
buffers. Everything else about the codec follows from these two facts.
-/
import WtVerif.Varint

namespace Varint

theorem parseSize_pos (x : UInt8) : 1 ≤ parseSize x := by
  unfold parseSize; split <;> (try split) <;> (try split) <;> omega

theorem parseSize_le (x : UInt8) : parseSize x ≤ 8 := by
  unfold parseSize; split <;> (try split) <;> (try split) <;> omega

/-! ### the two equations of `dec` -/

theorem dec_of_full (b0 : UInt8) (r t : Bytes) (h : (b0 :: r).length = parseSize b0) :
    dec (b0 :: r ++ t) = some (exactVal (b0 :: r), t) := by
  have e : b0 :: (r ++ t) = (b0 :: r) ++ t := rfl
  simp only [dec, List.cons_append]
  rw [← h, e, List.take_left' rfl, List.drop_left' rfl, if_neg (by simp)]

theorem dec_short (b0 : UInt8) (r : Bytes) (h : (b0 :: r).length < parseSize b0) :
    dec (b0 :: r) = none := by
  simp only [dec]; rw [if_pos h]

/-- what a successful decode has read: a buffer whose first byte announces its own length -/
theorem dec_eq_some {bs : Bytes} {v : Nat} {rest : Bytes} (h : dec bs = some (v, rest)) :
    ∃ b0 r, bs = b0 :: r ++ rest ∧ (b0 :: r).length = parseSize b0 ∧ v = exactVal (b0 :: r) := by
  match bs, h with
  | b0 :: t, h =>
    simp only [dec] at h
    split at h
    · cases h
    · rename_i hlen
      simp only [Option.some.injEq, Prod.mk.injEq] at h
      obtain ⟨m, hm⟩ : ∃ m, parseSize b0 = m + 1 := ⟨parseSize b0 - 1, by have := parseSize_pos b0; omega⟩
      rw [hm, List.take_succ_cons, List.drop_succ_cons] at h
      refine ⟨b0, t.take m, ?_, ?_, h.1.symm⟩
      · rw [← h.2]; simp
      · simp only [List.length_cons, List.length_take] at hlen ⊢; omega

/-- a successful decode consumed a non-empty prefix: `bs = consumed ++ rest` -/
theorem dec_some_split {bs : Bytes} {v : Nat} {rest : Bytes} (h : dec bs = some (v, rest)) :
    ∃ c, bs = c ++ rest ∧ 1 ≤ c.length ∧ c.length ≤ 8 ∧ rest.length < bs.length := by
  obtain ⟨b0, r, rfl, hfull, _⟩ := dec_eq_some h
  have := parseSize_le b0
  simp only [List.length_cons] at hfull
  exact ⟨b0 :: r, rfl, by simp, by simp only [List.length_cons]; omega, by simp only [List.length_append, List.length_cons]; omega⟩

/-- decoding is stable under appending more input -/
theorem dec_append {bs : Bytes} {v : Nat} {rest : Bytes} (t : Bytes)
    (h : dec bs = some (v, rest)) : dec (bs ++ t) = some (v, rest ++ t) := by
  obtain ⟨b0, r, rfl, hfull, rfl⟩ := dec_eq_some h
  rw [List.append_assoc]; exact dec_of_full b0 r _ hfull

/-- decoding looks only at the bytes it consumes, and asks for more on every proper prefix of them -/
theorem dec_consumed {bs : Bytes} {v : Nat} {rest : Bytes} (h : dec bs = some (v, rest)) :
    ∃ c, bs = c ++ rest ∧ (∀ x, dec (c ++ x) = some (v, x)) ∧ ∀ k, k < c.length → dec (c.take k) = none := by
  obtain ⟨b0, r, rfl, hfull, rfl⟩ := dec_eq_some h
  refine ⟨b0 :: r, rfl, fun x => dec_of_full b0 r x hfull, fun k hk => ?_⟩
  cases k with
  | zero => rfl
  | succ j =>
    apply dec_short
    simp only [List.length_cons, List.length_take] at hk hfull ⊢
    omega

theorem beVal_lt (bs : Bytes) : beVal bs < 256 ^ bs.length := by
  induction bs with
  | nil => simp [beVal]
  | cons x r ih =>
    have hx := x.toNat_lt
    simp only [beVal, List.length_cons, Nat.pow_succ]
    calc x.toNat * 256 ^ r.length + beVal r < (x.toNat + 1) * 256 ^ r.length := by rw [Nat.add_mul]; omega
      _ ≤ 256 ^ r.length * 256 := by rw [Nat.mul_comm]; exact Nat.mul_le_mul_left _ (by omega)

/-- the masked first byte leaves six bits on top of the remaining bytes -/
theorem exactVal_lt (b0 : UInt8) (r : Bytes) : exactVal (b0 :: r) < 64 * 256 ^ r.length := by
  have hb := beVal_lt r
  have hm : b0.toNat % 64 < 64 := Nat.mod_lt _ (by omega)
  simp only [exactVal]
  calc b0.toNat % 64 * 256 ^ r.length + beVal r < (b0.toNat % 64 + 1) * 256 ^ r.length := by rw [Nat.add_mul]; omega
    _ ≤ 64 * 256 ^ r.length := Nat.mul_le_mul_right _ (by omega)

/-- every decoded value is a legal `VarInt` (< 2^62): the `debug_assert!` and the
`from_u64_unchecked` precondition in `BufferReader::get_varint` hold for every input. -/
theorem dec_lt {bs : Bytes} {v : Nat} {rest : Bytes} (h : dec bs = some (v, rest)) : v < 2^62 := by
  obtain ⟨b0, r, _, hfull, rfl⟩ := dec_eq_some h
  have hl : r.length ≤ 7 := by have := parseSize_le b0; simp only [List.length_cons] at hfull; omega
  calc exactVal (b0 :: r) < 64 * 256 ^ r.length := exactVal_lt b0 r
    _ ≤ 64 * 256 ^ 7 := Nat.mul_le_mul_left _ (Nat.pow_le_pow_right (by omega) hl)

/-! ### the encoder: a tagged first byte over the big-endian digits of the value -/

/-- the `k` low base-256 digits of `v`, most significant first -/
def beBytes (v : Nat) : Nat → Bytes
  | 0 => []
  | k + 1 => b v k :: beBytes v k

theorem beBytes_length (v k : Nat) : (beBytes v k).length = k := by
  induction k with
  | zero => rfl
  | succ k ih => simp [beBytes, ih]

theorem beVal_beBytes (v k : Nat) : beVal (beBytes v k) = v % 256 ^ k := by
  induction k with
  | zero => simp [beBytes, beVal, Nat.mod_one]
  | succ k ih =>
    have : (UInt8.ofNat (v / 256 ^ k % 256)).toNat = v / 256 ^ k % 256 := by simp
    rw [beBytes, beVal, beBytes_length, ih, b, this, Nat.mod_pow_succ, Nat.mul_comm, Nat.add_comm]

theorem parseSize_eq_pow (x : UInt8) : parseSize x = 2 ^ (x.toNat / 64) := by
  have hx := x.toNat_lt
  unfold parseSize
  split
  · rw [show x.toNat / 64 = 0 by omega]
  · split
    · rw [show x.toNat / 64 = 1 by omega]
    · split
      · rw [show x.toNat / 64 = 2 by omega]
      · rw [show x.toNat / 64 = 3 by omega]

/-- a first byte `64 * t + q` (tag `t`, six value bits `q`) announces `2^t` bytes … -/
theorem parseSize_tag (t q : Nat) (ht : t < 4) (hq : q < 64) : parseSize (UInt8.ofNat (64 * t + q)) = 2 ^ t := by
  rw [parseSize_eq_pow, UInt8.toNat_ofNat', show (64 * t + q) % 2 ^ 8 / 64 = t by omega]

/-- … and contributes `q` above whatever bytes follow it -/
theorem exactVal_tag (t q : Nat) (_ : t < 4) (hq : q < 64) (ds : Bytes) :
    exactVal (UInt8.ofNat (64 * t + q) :: ds) = q * 256 ^ ds.length + beVal ds := by
  have hb : (UInt8.ofNat (64 * t + q)).toNat % 64 = q := by simp only [UInt8.toNat_ofNat']; omega
  rw [exactVal, hb]

/-- tag `t` over the `k = 2^t - 1` low digits of `v`, the rest of `v` in the first byte: a full buffer holding `v` -/
theorem tagged_full (t k v : Nat) (ht : t < 4) (hk : k + 1 = 2 ^ t) (hv : v < 64 * 256 ^ k) :
    (UInt8.ofNat (64 * t + v / 256 ^ k) :: beBytes v k).length = parseSize (UInt8.ofNat (64 * t + v / 256 ^ k)) ∧
    exactVal (UInt8.ofNat (64 * t + v / 256 ^ k) :: beBytes v k) = v := by
  have hq : v / 256 ^ k < 64 := (Nat.div_lt_iff_lt_mul (Nat.pow_pos (by omega))).2 hv
  rw [parseSize_tag t _ ht hq, exactVal_tag t _ ht hq, List.length_cons, beBytes_length, beVal_beBytes, Nat.div_add_mod']
  exact ⟨hk, rfl⟩

/-- every encoding is a full buffer (its first byte announces its length) holding the value -/
theorem enc_eq (v : Nat) (h : v < 2^62) :
    ∃ b0 r, enc v = b0 :: r ∧ (b0 :: r).length = parseSize b0 ∧ exactVal (b0 :: r) = v := by
  unfold enc
  split
  · have := tagged_full 0 0 v (by omega) rfl (by omega)
    simp only [Nat.pow_zero, Nat.div_one, Nat.mul_zero, Nat.zero_add] at this
    exact ⟨_, _, rfl, this⟩
  · split
    · exact ⟨_, _, rfl, tagged_full 1 1 v (by omega) rfl (by omega)⟩
    · split
      · exact ⟨_, _, rfl, tagged_full 2 3 v (by omega) rfl (by omega)⟩
      · exact ⟨_, _, rfl, tagged_full 3 7 v (by omega) rfl (by omega)⟩

theorem dec_enc (v : Nat) (h : v < 2^62) (rest : Bytes) : dec (enc v ++ rest) = some (v, rest) := by
  obtain ⟨b0, r, he, hfull, hv⟩ := enc_eq v h
  rw [he, dec_of_full b0 r rest hfull, hv]

/-- the first byte of an encoding announces the encoding's own length -/
theorem parseSize_enc_head (v : Nat) (h : v < 2^62) :
    ∃ b0 r, enc v = b0 :: r ∧ parseSize b0 = (enc v).length := by
  obtain ⟨b0, r, he, hfull, _⟩ := enc_eq v h
  exact ⟨b0, r, he, by rw [he, hfull]⟩

theorem enc_ne_nil (v : Nat) : enc v ≠ [] := by
  unfold enc; split <;> (try split) <;> (try split) <;> simp

end Varint
