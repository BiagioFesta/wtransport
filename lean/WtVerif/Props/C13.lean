/-
C13 — Unknown and GREASE protocol elements are skipped whole, with no side effects.

For every unknown / reserved type value, every payload length and content (including payloads
that look like frames), every position: the element is consumed in its entirety — its length and
payload are never re-read — and the surrounding elements are interpreted as if it were absent.
-/
import WtVerif.Lemmas.Worker

namespace Props.C13
open Varint

/-- wire form of a frame-shaped element of type `id` -/
def element (id : Nat) (payload : Bytes) : Bytes := enc id ++ enc payload.length ++ payload

/-- every element a reader must skip without delivering anything: an unknown frame, and a GREASE
frame whose payload exceeds the parse limit (it does not close the connection with
H3_EXCESSIVE_LOAD) -/
def Skipped (e : Bytes) : Prop :=
  ∃ id payload, id < 2^62 ∧ payload.length < 2^62 ∧ e = element id payload ∧
    (FrameKind.parse id = none ∨
     (FrameKind.isIdExercise id = true ∧ payload.length > Frame.maxParsePayload))

/-- A skipped element is consumed whole, whatever its payload: reading continues exactly after
its payload. -/
theorem skipped_read {e : Bytes} (h : Skipped e) (rest : Bytes) : Frame.read (e ++ rest) = .unknown rest := by
  obtain ⟨id, payload, hid, hlen, rfl, hk⟩ := h
  simp only [element, List.append_assoc, Frame.read]
  rw [dec_enc _ hid]
  rcases hk with hk | ⟨hg, hbig⟩
  · simp only [hk]
    rw [dec_enc _ hlen]
    simp [Frame.skipPayload]
  · simp only [FrameKind.parse_id_exercise hg]
    rw [dec_enc _ hlen]
    simp [hbig, FrameKind.isExercise, Frame.skipPayload]

/-- A GREASE frame within the limit is delivered as one frame of a reserved kind (every caller
discards it): its length and payload are not re-read as frames either. -/
theorem grease_frame_delivered_whole (id : Nat) (payload rest : Bytes) (hid : id < 2^62)
    (hg : FrameKind.isIdExercise id = true) (hlen : payload.length ≤ Frame.maxParsePayload) :
    Frame.read (element id payload ++ rest) = .frame ⟨.exercise id, payload, none⟩ rest := by
  have := Frame.read_write ⟨.exercise id, payload, none⟩ rest ⟨hg, hid, rfl⟩ hid hlen
  simpa [Frame.write, Frame.sessionIdOf, element, FrameKind.id] using this

/-- **Typestates**: inserting a skipped element in front of any input changes nothing — same
frames, same errors, same state, for each of the four frame-reading typestates. By induction
this holds for any number of insertions at any frame boundary. -/
theorem typestate_insertion_invisible (role : Role) (st : Bool) (e rest : Bytes) (h : Skipped e) :
    Ts.readFrame role st (e ++ rest) = Ts.readFrame role st rest := by
  rw [Ts.readFrame_eq, skipped_read h]

/-- the end-of-stream classification skips the element as well -/
theorem afterIgnorable_skipped {e : Bytes} (h : Skipped e) (rest : Bytes) :
    Worker.afterIgnorable (e ++ rest) = Worker.afterIgnorable rest := by
  rw [Worker.afterIgnorable_eq, skipped_read h]

/-- whatever reads a stream and does not see one skipped element does not see any number of them -/
theorem insertions_invisible {α : Type} (read : Bytes → α) (hread : ∀ e rest, Skipped e → read (e ++ rest) = read rest)
    (es : List Bytes) (rest : Bytes) (h : ∀ e ∈ es, Skipped e) : read (es.flatten ++ rest) = read rest := by
  induction es with
  | nil => rfl
  | cons e es ih =>
    rw [List.flatten_cons, List.append_assoc, hread e _ (h e (by simp))]
    exact ih (fun e' he' => h e' (by simp [he']))

theorem typestate_insertions_invisible (role : Role) (st : Bool) (es : List Bytes) (rest : Bytes)
    (h : ∀ e ∈ es, Skipped e) :
    Ts.readFrame role st (es.flatten ++ rest) = Ts.readFrame role st rest :=
  insertions_invisible _ (fun e rest => typestate_insertion_invisible role st e rest) es rest h

/-- **Session (CONNECT) stream**: skipped elements, GREASE frames within the limit, and DATA
frames carrying a capsule of unknown type all leave the outcome of the session untouched. -/
theorem session_stream_ignores_skipped (e rest : Bytes) (t : Tail) (h : Skipped e) :
    Worker.connectRun (e ++ rest) t = Worker.connectRun rest t := by
  rw [Worker.connectRun_eq (e ++ rest), typestate_insertion_invisible _ _ _ _ h, afterIgnorable_skipped h,
    ← Worker.connectRun_eq]

theorem session_stream_ignores_grease (id : Nat) (payload rest : Bytes) (t : Tail) (hid : id < 2^62)
    (hg : FrameKind.isIdExercise id = true) (hlen : payload.length ≤ Frame.maxParsePayload) :
    Worker.connectRun (element id payload ++ rest) t = Worker.connectRun rest t := by
  rw [Worker.connectRun_eq, Ts.readFrame_eq, grease_frame_delivered_whole id payload rest hid hg hlen]
  simp [Ts.validate]

/-- a capsule of unknown type inside a DATA frame is skipped (never by itself ends the session) -/
theorem unknown_capsule_skipped (ty : Nat) (body rest : Bytes) (t : Tail) (hty : ty < 2^62)
    (hne : ty ≠ Generated.CAPSULE_CLOSE_WEBTRANSPORT_SESSION)
    (hlen : (enc ty ++ body).length ≤ Frame.maxParsePayload) :
    Worker.connectRun (Frame.write ⟨.data, enc ty ++ body, none⟩ ++ rest) t = Worker.connectRun rest t := by
  rw [Worker.connectRun_data _ _ _ hlen]
  simp [Capsule.withPayload, dec_enc _ hty, hne]

/-- **Control stream** (after SETTINGS): skipped elements and GREASE frames change nothing. -/
theorem control_stream_ignores_skipped (e rest : Bytes) (t : Tail) (s : Option Settings) (h : Skipped e) :
    Worker.controlRun (e ++ rest) t s = Worker.controlRun rest t s := by
  rw [Worker.controlRun_eq (e ++ rest), typestate_insertion_invisible _ _ _ _ h, afterIgnorable_skipped h,
    ← Worker.controlRun_eq]

theorem control_stream_ignores_grease (id : Nat) (payload rest : Bytes) (t : Tail) (s : Settings)
    (hid : id < 2^62) (hg : FrameKind.isIdExercise id = true) (hlen : payload.length ≤ Frame.maxParsePayload) :
    Worker.controlRun (element id payload ++ rest) t (some s) = Worker.controlRun rest t (some s) := by
  rw [Worker.controlRun_eq, Ts.readFrame_eq, grease_frame_delivered_whole id payload rest hid hg hlen]
  simp [Ts.validate, FrameKind.isExercise]

/-- **Settings**: a setting with an unknown identifier is ignored, value and all. -/
theorem unknown_setting_ignored (id v : Nat) (rest : Bytes) (acc : Settings) (hid : id < 2^62) (hv : v < 2^62)
    (hunk : SettingId.parse id = .error .unknown) :
    Settings.withPayload (enc id ++ enc v ++ rest) acc = Settings.withPayload rest acc := by
  rw [Settings.withPayload_pair _ _ _ _ hid hv, hunk]

/-- a GREASE setting is remembered under its own reserved id and never shadows or alters a
registered setting -/
theorem grease_setting_harmless (id v : Nat) (rest : Bytes) (acc : Settings) (hid : id < 2^62) (hv : v < 2^62)
    (hg : SettingId.isExercise id = true) (hres : SettingId.isReserved id = false)
    (hfresh : (Settings.get acc (.exercise id)).isSome = false) :
    Settings.withPayload (enc id ++ enc v ++ rest) acc = Settings.withPayload rest (acc ++ [(.exercise id, v)]) := by
  have hp : SettingId.parse id = .ok (.exercise id) := by simp [SettingId.parse, hg, hres]
  rw [Settings.withPayload_pair _ _ _ _ hid hv, hp]
  simp [hfresh]

/-- **Unidirectional streams**: a stream of unknown type, whatever follows the type, is refused
on its own — never a connection error (RFC 9114 §6.2); a stream of a reserved (GREASE) type
is ignored by the worker without any effect on the critical streams. -/
theorem unknown_uni_stream_never_closes_connection (id : Nat) (content : Bytes) (t : Tail) (hid : id < 2^62)
    (hunk : StreamKind.parse id = none) :
    Worker.uniTask (enc id ++ content) t = .refuseStream .streamCreation := by
  simp [Worker.uniTask, StreamHeader.read, dec_enc _ hid, hunk]

theorem grease_uni_stream_ignored (id : Nat) (content : Bytes) (t : Tail) (c : Worker.Critical)
    (hid : id < 2^62) (hg : StreamKind.isIdExercise id = true) :
    Worker.uniTask (enc id ++ content) t = .h3 (.exercise id) content ∧
    Worker.handleUniH3 c (.exercise id) = .ok c := by
  simp [Worker.uniTask, StreamHeader.read, dec_enc _ hid, StreamKind.parse_id_exercise hg, Worker.handleUniH3]

/-! ### non-vacuity: the GOAWAY frame `07 01 00` that used to be re-read as an empty HEADERS frame -/

example : Skipped [0x07, 0x01, 0x00] :=
  ⟨7, [0], by decide, by decide, by decide, Or.inl (by decide)⟩
example : Frame.read ([0x07, 0x01, 0x00] ++ [0x00, 0x02, 0x68, 0x69]) = .unknown [0x00, 0x02, 0x68, 0x69] := by decide
example : FrameKind.isIdExercise 0x21 = true ∧ FrameKind.parse 0x0d = none ∧ StreamKind.parse 0x3f = none := by decide

end Props.C13
