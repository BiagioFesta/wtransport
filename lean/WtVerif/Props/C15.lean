/-
C15 — All decoding paths agree and incomplete input is never consumed.

The one-shot (`read`), buffered (`read_from_buffer`) and asynchronous (`read_async`) decoders
are separate definitions in the model, as they are separate functions in the code. The
theorems say they are one function of the bytes, for every input, every chunking of the source
into reads and every pattern of `Pending` (the oracle `o` is universally quantified), and that
a proper prefix of what a reader would consume is answered by "need more".
-/
import WtVerif.Lemmas.Frame
import WtVerif.Lemmas.Worker

namespace Props.C15

/-- Relation between one asynchronous run and the one-shot read of the same bytes. At an end of the
source the error is `tailErr`'s: `ImmediateFin` iff not a single byte was available, `UnexpectedFin`
otherwise; `Reset` / `NotConnected` when the source was reset / lost. -/
def FrameAgree (bs : Bytes) (t : Tail) : Out FrameParseError Frame → Prop
  | .done (.ok f) s' _ => Frame.read bs = .frame f s'.rest
  | .done (.parse .unknownFrame) s' _ => Frame.read bs = .unknown s'.rest
  | .done (.parse .invalidSessionId) _ _ => Frame.read bs = .invalidSessionId
  | .done (.parse .payloadTooBig) _ _ => Frame.read bs = .payloadTooBig
  | .done (.io e) _ _ => Frame.read bs = .needMore ∧ tailErr t bs.isEmpty = some e
  | .blocked s' => ∃ c, bs = c ++ s'.rest

/-- **Frames: async = one-shot**, same value or same class of error, same number of bytes
consumed, for every byte string, end of source, chunking and `Pending` pattern. A run that
did not complete has consumed a prefix of the source and produced nothing. -/
theorem frame_async_eq_oneshot (bs : Bytes) (t : Tail) (o : List Poll) :
    FrameAgree bs t (Frame.readAsync.run ⟨bs, t⟩ o) := by
  have h := Prog.run_sound Frame.readAsync ⟨bs, t⟩ o
  generalize Frame.readAsync.run ⟨bs, t⟩ o = out at h ⊢
  match out, h with
  | .blocked s', ⟨c, hc, _⟩ => exact ⟨c, hc⟩
  | .done (.ok f) s' _, h => simp only [FrameAgree, Frame.read_eq_sync, h.1, Frame.ofSync]
  | .done (.parse e) s' _, h => cases e <;> simp only [FrameAgree, Frame.read_eq_sync, h.1, Frame.ofSync]
  | .done (.io e) s' _, h =>
    obtain ⟨⟨f, hs⟩, hte⟩ := ProgSpec.io_atStart Frame.readAsync_noFirst h
    exact ⟨by simp only [Frame.read_eq_sync, hs, Frame.ofSync], hte⟩

/-! ### the stream typestates: `read_frame_async` = `read_frame` -/

/-- Relation between one asynchronous run of a typestate reader (any number of ignorable
frames skipped on the way) and the one-shot `read_frame` on the same bytes. -/
def TsAgree (role : Role) (st : Bool) (bs : Bytes) (t : Tail) : Bool × Ts.AsyncRead × Src × List Poll → Prop
  | (st', .frame f, s', _) => Ts.readFrame role st bs = (st', .frame f s'.rest)
  | (st', .h3 e, _, _) => Ts.readFrame role st bs = (st', .err e) ∨
      (e = .frame ∧ t = .fin ∧ Ts.readFrame role st bs = (st', .needMore))
  | (st', .io e, _, _) => Ts.readFrame role st bs = (st', .needMore) ∧ e ≠ .unexpectedFin ∧
      ((e = .immediateFin ∧ t = .fin) ∨ (e = .reset ∧ t = .reset) ∨ (e = .notConnected ∧ t = .lost))
  | (_, .blocked, s', _) => ∃ c, bs = c ++ s'.rest

/-- **Typestates: async = one-shot.** For every stream role, state, byte string, end of source,
chunking and `Pending` pattern (and any bound on the number of loop turns): a delivered frame is
the frame `read_frame` delivers, with the same state and the same bytes left; an H3 error is the
same error — or H3_FRAME_ERROR where the one-shot reader needs more data and the stream has
finished; an I/O error only where the one-shot reader needs more; an unfinished run has consumed
a prefix and delivered nothing. -/
theorem typestate_async_eq_oneshot (role : Role) : ∀ (fuel : Nat) (st : Bool) (bs : Bytes) (t : Tail) (o : List Poll),
    TsAgree role st bs t (Ts.readFrameAsync role fuel st ⟨bs, t⟩ o) := by
  intro fuel
  induction fuel with
  | zero => intro st bs t o; exact ⟨[], rfl⟩
  | succ n ih =>
    intro st bs t o
    have hsound := Prog.run_sound Frame.readAsync ⟨bs, t⟩ o
    have hagree := frame_async_eq_oneshot bs t o
    have hrf := Ts.readFrame_eq role st bs
    unfold Ts.readFrameAsync
    generalize Frame.readAsync.run ⟨bs, t⟩ o = out at hsound hagree ⊢
    match out, hagree with
    | .blocked s', hagree => exact hagree
    | .done (.ok f) s' o', hagree =>
      rw [show Frame.read bs = _ from hagree] at hrf
      simp only at hrf ⊢
      cases hv : (Ts.validate role st f).2 with
      | ok f' => simp only [hv] at hrf ⊢; exact hrf
      | error e => simp only [hv] at hrf ⊢; exact Or.inl hrf
    | .done (.parse .invalidSessionId) s' o', hagree =>
      rw [show Frame.read bs = _ from hagree] at hrf; exact Or.inl hrf
    | .done (.parse .payloadTooBig) s' o', hagree =>
      rw [show Frame.read bs = _ from hagree] at hrf; exact Or.inl hrf
    | .done (.parse .unknownFrame) s' o', hagree =>
      -- the loop turns: same reader on what is left, which is a suffix of `bs`
      rw [show Frame.read bs = _ from hagree] at hrf
      obtain ⟨c0, hc0⟩ := Frame.read_suffix (Or.inr hagree)
      have hs' : s' = ⟨s'.rest, t⟩ := by cases s'; simp only [Src.mk.injEq, true_and]; exact hsound.2
      have hrec := ih st s'.rest t o'
      rw [← hs'] at hrec
      simp only at hrf ⊢
      generalize Ts.readFrameAsync role n st s' o' = res at hrec ⊢
      obtain ⟨st', r, s2, o2⟩ := res
      cases r with
      | blocked => obtain ⟨c, hc⟩ := hrec; exact ⟨c0 ++ c, by rw [hc0, hc, List.append_assoc]⟩
      | _ => simp only [TsAgree] at hrec ⊢; rw [hrf]; exact hrec
    | .done (.io e) s' o', ⟨hread, hend⟩ =>
      rw [hread] at hrf
      rcases tailErr_eq_some hend with ⟨rfl, rfl⟩ | ⟨rfl, rfl⟩ | ⟨rfl, rfl⟩
      · cases bs.isEmpty
        · exact Or.inr ⟨rfl, rfl, hrf⟩
        · exact ⟨hrf, by decide, Or.inl ⟨rfl, rfl⟩⟩
      · exact ⟨hrf, by decide, Or.inr (Or.inl ⟨rfl, rfl⟩)⟩
      · exact ⟨hrf, by decide, Or.inr (Or.inr ⟨rfl, rfl⟩)⟩

def HeaderAgree (bs : Bytes) (t : Tail) : Out HeaderParseError StreamHeader → Prop
  | .done (.ok h) s' _ => StreamHeader.read bs = .header h s'.rest
  | .done (.parse .unknownStream) _ _ => StreamHeader.read bs = .unknownStream
  | .done (.parse .invalidSessionId) _ _ => StreamHeader.read bs = .invalidSessionId
  | .done (.io e) _ _ => StreamHeader.read bs = .needMore ∧ tailErr t bs.isEmpty = some e
  | .blocked s' => ∃ c, bs = c ++ s'.rest

/-- **Stream headers: async = one-shot.** -/
theorem header_async_eq_oneshot (bs : Bytes) (t : Tail) (o : List Poll) :
    HeaderAgree bs t (StreamHeader.readAsync.run ⟨bs, t⟩ o) := by
  have h := Prog.run_sound StreamHeader.readAsync ⟨bs, t⟩ o
  generalize StreamHeader.readAsync.run ⟨bs, t⟩ o = out at h ⊢
  match out, h with
  | .blocked s', ⟨c, hc, _⟩ => exact ⟨c, hc⟩
  | .done (.ok f) s' _, h => simp only [HeaderAgree, StreamHeader.read_eq_sync, h.1, StreamHeader.ofSync]
  | .done (.parse e) s' _, h =>
    cases e <;> simp only [HeaderAgree, StreamHeader.read_eq_sync, h.1, StreamHeader.ofSync]
  | .done (.io e) s' _, h =>
    obtain ⟨⟨f, hs⟩, hte⟩ := ProgSpec.io_atStart StreamHeader.readAsync_noFirst h
    exact ⟨by simp only [StreamHeader.read_eq_sync, hs, StreamHeader.ofSync], hte⟩

/-- **Buffered = one-shot, and the read position moves only on a value**: `read_from_buffer`
returns what `read` returns; the offset advances by exactly the bytes of the frame when a frame
is returned and stays where it was on need-more and on every error. -/
theorem frame_buffered_eq_oneshot (bs : Bytes) :
    (Frame.readFromBuffer bs).1 = Frame.read bs ∧
    (∀ f rest, Frame.read bs = .frame f rest → (Frame.readFromBuffer bs).2 = bs.length - rest.length) ∧
    ((∀ f rest, Frame.read bs ≠ .frame f rest) → (Frame.readFromBuffer bs).2 = 0) := by
  unfold Frame.readFromBuffer
  cases h : Frame.read bs <;> simp

theorem header_buffered_eq_oneshot (bs : Bytes) :
    (StreamHeader.readFromBuffer bs).1 = StreamHeader.read bs ∧
    (∀ h rest, StreamHeader.read bs = .header h rest →
        (StreamHeader.readFromBuffer bs).2 = bs.length - rest.length) ∧
    ((∀ h rest, StreamHeader.read bs ≠ .header h rest) → (StreamHeader.readFromBuffer bs).2 = 0) := by
  unfold StreamHeader.readFromBuffer
  cases h : StreamHeader.read bs <;> simp

/-- **A proper prefix asks for more data** — never a spurious value, never an error: if reading
`c ++ rest` yields a frame (or skips an ignorable frame) leaving `rest`, then reading any proper
prefix of `c` yields need-more. -/
theorem frame_prefix_needs_more (c rest : Bytes) (k : Nat) (hk : k < c.length)
    (h : (∃ f, Frame.read (c ++ rest) = .frame f rest) ∨ Frame.read (c ++ rest) = .unknown rest) :
    Frame.read (c.take k) = .needMore := by
  obtain ⟨fl, hf⟩ := Frame.readAsync.sync_take_needMore (Frame.read_consumed h) hk
  rw [Frame.read_eq_sync, hf]; rfl

theorem header_prefix_needs_more (c rest : Bytes) (k : Nat) (hk : k < c.length)
    (h : ∃ hd, StreamHeader.read (c ++ rest) = .header hd rest) :
    StreamHeader.read (c.take k) = .needMore := by
  obtain ⟨fl, hf⟩ := StreamHeader.readAsync.sync_take_needMore (StreamHeader.read_consumed h) hk
  rw [StreamHeader.read_eq_sync, hf]; rfl

/-- in particular every proper prefix of a valid encoding asks for more -/
theorem valid_frame_prefix_needs_more (f : Frame) (hwf : Frame.WF f) (hid : f.kind.id < 2^62)
    (hlen : f.payload.length ≤ Frame.maxParsePayload) (k : Nat) (hk : k < (Frame.write f).length) :
    Frame.read ((Frame.write f).take k) = .needMore := by
  have h := Frame.read_write f [] hwf hid hlen
  exact frame_prefix_needs_more (Frame.write f) [] k hk (Or.inl ⟨f, h⟩)

/-! ### non-vacuity -/

-- a two-chunk delivery with a Pending in between of a DATA frame `00 02 aa bb` followed by `cc`
example : Frame.readAsync.run ⟨[0, 2, 0xaa, 0xbb, 0xcc], .fin⟩ [.give 1, .pending, .give 2, .give 5]
    = .done (.ok ⟨.data, [0xaa, 0xbb], none⟩) ⟨[0xcc], .fin⟩ [] := by decide
example : Frame.read [0, 2, 0xaa, 0xbb, 0xcc] = .frame ⟨.data, [0xaa, 0xbb], none⟩ [0xcc] := by decide
example : Frame.readAsync.run ⟨[0, 2, 0xaa], .fin⟩ [.give 8, .give 8, .give 8, .give 8]
    = .done (.io .unexpectedFin) ⟨[], .fin⟩ [] := by decide
example : Frame.readAsync.run ⟨[], .fin⟩ [.give 8] = .done (.io .immediateFin) ⟨[], .fin⟩ [] := by decide

end Props.C15
