/-
C17 — Identifier algebra is exact and foreign-session traffic is never delivered.
-/
import WtVerif.Lemmas.Ids
import WtVerif.Lemmas.Frame
import WtVerif.StreamRules

namespace Props.C17
open Ids

/-- A session id is accepted exactly when it names a client-initiated bidirectional stream
(QUIC: the two low bits are zero). -/
theorem session_id_accepted_iff (v : Nat) :
    (sessionIdTry v = some v ↔ v % 4 = 0) ∧ (sessionIdTry v = none ↔ v % 4 ≠ 0) := by
  refine ⟨sessionIdTry_some_iff v, ?_⟩
  rw [sessionIdTry_eq]; split <;> simp [*]

/-- Stream-id classification is QUIC's (RFC 9000 §2.1): bit 0 = initiator (0 = client),
bit 1 = direction (0 = bidirectional); "local" = initiated by this endpoint's role. -/
theorem classification_is_quic (v : Nat) (isServer : Bool) :
    (isBidirectional v = true ↔ v / 2 % 2 = 0) ∧ (isClientInitiated v = true ↔ v % 2 = 0) ∧
    (isLocal v isServer = true ↔ (v % 2 = 1 ↔ isServer = true)) := by
  refine ⟨isBidirectional_iff v, isClientInitiated_iff v, ?_⟩
  simp only [isLocal, Nat.and_one_is_mod]
  cases isServer <;> simp <;> omega

/-- session id → quarter stream id → session id is the identity, and stays in range:
the `debug_assert!`s and the `unsafe` preconditions of `from_session_id` hold for all 2^62
values. -/
theorem session_quarter_session (s : Nat) (hs : s < 2^62) (hv : s % 4 = 0) :
    qOfSession s ≤ qMax ∧ sessionOfQ (qOfSession s) = s := by
  rw [qOfSession_eq, qMax_eq, sessionOfQ_eq _ (by omega)]; omega

/-- quarter stream id → session id → quarter stream id is the identity; the session id is a
valid one below 2^62 (preconditions of `into_stream_id`, `into_session_id`,
`from_session_stream_unchecked`). -/
theorem quarter_session_quarter (q : Nat) (hq : q ≤ qMax) :
    sessionOfQ q < 2^62 ∧ sessionIdTry (sessionOfQ q) = some (sessionOfQ q) ∧
    qOfSession (sessionOfQ q) = q := by
  rw [qMax_eq] at hq
  rw [sessionIdTry_some_iff, qOfSession_eq, sessionOfQ_eq q (by omega)]; omega

/-- `QStreamId::try_from_varint` accepts exactly the values up to 2^60 − 1 -/
theorem quarter_accepted_iff (v : Nat) : qTry v = some v ↔ v ≤ 2^60 - 1 := by
  simp [qTry_eq_some, qMax_eq]

/-- a datagram's session id (from any accepted quarter id) is always a valid session id -/
theorem datagram_session_id_valid (quic : Bytes) (d : Datagram.App) (h : Datagram.appRead quic = some d) :
    d.sessionId % 4 = 0 ∧ d.sessionId < 2^62 := by
  obtain ⟨q, hr, hs⟩ := Datagram.appRead_eq_some h
  obtain ⟨hlt, hok, _⟩ := quarter_session_quarter q (Datagram.read_eq_ok.1 hr).2
  rw [hs]; exact ⟨(sessionIdTry_some_iff _).1 hok, hlt⟩

/-! ### the application-side filter (`Driver::accept_uni/accept_bi/receive_datagram`) -/

/-- One call of `accept_*(session_id)` on the queue of ready items `(session id, item)`:
`loop { recv; if it names the session return it; else refuse it (streams: STOP_SENDING with
WEBTRANSPORT_BUFFERED_STREAM_REJECTED; datagrams: drop) }`. Returns the delivered item, the
refused ones and what is left in the queue. -/
def acceptFiltered {α : Type} (sid : Nat) : List (Nat × α) → Option α × List (Nat × α) × List (Nat × α)
  | [] => (none, [], [])
  | (s, x) :: q =>
    if s = sid then (some x, [], q)
    else
      let (d, rej, rest) := acceptFiltered sid q
      (d, (s, x) :: rej, rest)

/-- Foreign-session traffic is never delivered: whatever is in the queue, the item an accept
call returns names the caller's session, every refused item names another one, nothing is
lost (queue = refused ++ delivered ++ rest) and the delivered item is the first of its
session. -/
theorem filter_never_delivers_foreign {α : Type} (sid : Nat) (q : List (Nat × α)) :
    let (d, rej, rest) := acceptFiltered sid q
    (∀ p ∈ rej, p.1 ≠ sid) ∧
    (match d with
     | some x => q = rej ++ (sid, x) :: rest
     | none => q = rej ∧ rest = []) := by
  fun_induction acceptFiltered sid q with
  | case1 => simp
  | case2 x q => simp
  | case3 s x q hne d rej rest heq ih =>
    rw [heq] at ih
    refine ⟨fun p hp => (List.mem_cons.1 hp).elim (fun e => e ▸ hne) (ih.1 p), ?_⟩
    cases d with
    | some y => exact congrArg _ ih.2
    | none => exact ⟨congrArg _ ih.2.1, ih.2.2⟩

/-- the refusal code is the registered WEBTRANSPORT_BUFFERED_STREAM_REJECTED -/
theorem buffered_stream_rejected_code : H3Err.bufferedStreamRejected.toCode = 0x3994bd84 := by decide

/-! ### non-vacuity -/
example : sessionIdTry 8 = some 8 ∧ sessionIdTry 9 = none ∧ sessionIdTry 10 = none := ⟨rfl, rfl, rfl⟩
example : qOfSession ((2^62 - 4)) = 2^60 - 1 ∧ sessionOfQ (2^60 - 1) = 2^62 - 4 := ⟨rfl, rfl⟩
example : acceptFiltered 0 [(8, "f"), (4, "g"), (0, "live"), (0, "next")] =
    (some "live", [(8, "f"), (4, "g")], [(0, "next")]) := rfl

end Props.C17
