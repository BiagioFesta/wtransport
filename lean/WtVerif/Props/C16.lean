/-
C16 — Everything the endpoint emits is well-formed HTTP/3 and WebTransport.

(1) every constant and table the code uses on the wire (regenerated from the sources) equals
the independent transcription of the registries in `Spec/H3.lean`; (2) what the model
encoders emit is accepted, with the same meaning, by the independent `Spec` decoders.
-/
import WtVerif.Lemmas.Worker
import WtVerif.Lemmas.Ids
import WtVerif.Spec.H3
import WtVerif.Lemmas.Wire

namespace Props.C16
open Varint

/-! ### registries -/

theorem frame_types_registered :
    Generated.FRAME_DATA = Spec.FRAME_DATA ∧ Generated.FRAME_HEADERS = Spec.FRAME_HEADERS ∧
    Generated.FRAME_SETTINGS = Spec.FRAME_SETTINGS ∧
    Generated.FRAME_WEBTRANSPORT_STREAM = Spec.FRAME_WEBTRANSPORT_STREAM := by decide

theorem stream_types_registered :
    Generated.STREAM_CONTROL_STREAM = Spec.STREAM_CONTROL ∧
    Generated.STREAM_QPACK_ENCODER_STREAM = Spec.STREAM_QPACK_ENCODER ∧
    Generated.STREAM_QPACK_DECODER_STREAM = Spec.STREAM_QPACK_DECODER ∧
    Generated.STREAM_WEBTRANSPORT_STREAM = Spec.STREAM_WEBTRANSPORT := by decide

theorem setting_ids_registered :
    Generated.SETTINGS_QPACK_MAX_TABLE_CAPACITY = Spec.SETTINGS_QPACK_MAX_TABLE_CAPACITY ∧
    Generated.SETTINGS_MAX_FIELD_SECTION_SIZE = Spec.SETTINGS_MAX_FIELD_SECTION_SIZE ∧
    Generated.SETTINGS_QPACK_BLOCKED_STREAMS = Spec.SETTINGS_QPACK_BLOCKED_STREAMS ∧
    Generated.SETTINGS_ENABLE_CONNECT_PROTOCOL = Spec.SETTINGS_ENABLE_CONNECT_PROTOCOL ∧
    Generated.SETTINGS_H3_DATAGRAM = Spec.SETTINGS_H3_DATAGRAM ∧
    Generated.SETTINGS_ENABLE_WEBTRANSPORT = Spec.SETTINGS_ENABLE_WEBTRANSPORT ∧
    Generated.SETTINGS_WEBTRANSPORT_MAX_SESSIONS = Spec.SETTINGS_WEBTRANSPORT_MAX_SESSIONS ∧
    Generated.SETTINGS_RESERVED = Spec.SETTINGS_RESERVED := by decide

theorem error_codes_registered : Generated.ERROR_CODES = Spec.errorCodes := rfl

theorem capsule_type_registered :
    Generated.CAPSULE_CLOSE_WEBTRANSPORT_SESSION = Spec.CAPSULE_CLOSE_WEBTRANSPORT_SESSION := by decide

theorem alpn_is_h3 : Generated.WEBTRANSPORT_ALPN = "h3" := by decide

/-- the GREASE formula of each of the three registries is `0x1f * N + 0x21` -/
theorem grease_formula (id : Nat) :
    FrameKind.isIdExercise id = Spec.isGrease id ∧ StreamKind.isIdExercise id = Spec.isGrease id ∧
    SettingId.isExercise id = Spec.isGrease id := by
  -- the three registries use the same base and step
  have h : isGrease 0x21 0x1f id = Spec.isGrease id := by
    by_cases h1 : 33 ≤ id <;> by_cases h2 : (id - 33) % 31 = 0 <;> simp [isGrease, Spec.isGrease, h1, h2]
  exact ⟨h, h, h⟩

/-- the QPACK static table, all 99 rows, is RFC 9204 Appendix A -/
theorem static_table_is_rfc9204 : Generated.QPACK_STATIC_TABLE_STR = Spec.staticTable := rfl

theorem static_table_size : Generated.QPACK_STATIC_TABLE.length = 99 ∧ Generated.QPACK_STATIC_TABLE_STR.length = 99 := by
  decide

/-! ### the Huffman code the endpoint uses (tables of the linked crate) -/

/-- Kraft equality: the 257 codes (256 symbols + EOS) form a complete prefix code -/
theorem huffman_code_is_complete :
    (Generated.HUFFMAN_ENCODE.map (fun p => 2 ^ (30 - p.1))).sum = 2 ^ 30 ∧
    Generated.HUFFMAN_ENCODE.length = 257 ∧ Generated.HUFFMAN_ENCODE.all (fun p => 5 ≤ p.1 && p.1 ≤ 30 && p.2 < 2 ^ p.1) := by
  decide +kernel

/-- RFC 7541 Appendix C.4.1 / C.6.1 examples: `www.example.com`, `no-cache`, `custom-key`,
`custom-value`, `302`, `private` -/
theorem huffman_rfc7541_examples :
    Huffman.encode [119, 119, 119, 46, 101, 120, 97, 109, 112, 108, 101, 46, 99, 111, 109] =
      [0xf1, 0xe3, 0xc2, 0xe5, 0xf2, 0x3a, 0x6b, 0xa0, 0xab, 0x90, 0xf4, 0xff] ∧
    Huffman.encode [110, 111, 45, 99, 97, 99, 104, 101] = [0xa8, 0xeb, 0x10, 0x64, 0x9c, 0xbf] ∧
    Huffman.encode [99, 117, 115, 116, 111, 109, 45, 107, 101, 121] = [0x25, 0xa8, 0x49, 0xe9, 0x5b, 0xa9, 0x7d, 0x7f] ∧
    Huffman.encode [99, 117, 115, 116, 111, 109, 45, 118, 97, 108, 117, 101] =
      [0x25, 0xa8, 0x49, 0xe9, 0x5b, 0xb8, 0xe8, 0xb4, 0xbf] ∧
    Huffman.encode [51, 48, 50] = [0x64, 0x02] ∧
    Huffman.encode [112, 114, 105, 118, 97, 116, 101] = [0xae, 0xc3, 0x77, 0x1a, 0x4b] := by
  decide +kernel

/-! ### control stream -/

/-- the settings the endpoint advertises: zero-capacity QPACK table, no blocked streams,
extended CONNECT, HTTP datagrams, WebTransport (one session) — each exactly once -/
theorem advertised_settings :
    Settings.advertised = [(.qpackMaxTableCapacity, 0), (.qpackBlockedStreams, 0), (.enableConnectProtocol, 1),
      (.enableWebTransport, 1), (.h3Datagram, 1), (.webTransportMaxSessions, 1)] := by decide +kernel

/-- the control stream starts with stream type 0x00 followed by one SETTINGS frame whose payload
an independent RFC 9114 parser reads as exactly those settings -/
theorem control_stream_wellformed :
    StreamHeader.write ⟨.control, none⟩ = [0x00] ∧
    Frame.write ⟨.settings, Settings.encode Settings.advertised, none⟩ =
      [0x04, (Settings.encode Settings.advertised).length.toUInt8] ++ Settings.encode Settings.advertised ∧
    Spec.settingsParse 100 (Settings.encode Settings.advertised) [] =
      .ok [(0x01, 0), (0x07, 0), (0x08, 1), (0x2b603742, 1), (0x33, 1), (0xc671706a, 1)] := by
  decide +kernel

/-! ### stream preambles and datagrams -/

theorem beNat_eq (bs : Bytes) : ∀ acc,
    bs.foldl (fun acc b => acc * 256 + b.toNat) acc = acc * 256 ^ bs.length + beVal bs := by
  induction bs with
  | nil => intro acc; simp [beVal]
  | cons x r ih =>
    intro acc
    rw [List.foldl_cons, ih, beVal, List.length_cons, Nat.pow_succ, Nat.add_mul, Nat.mul_assoc, Nat.add_assoc, Nat.mul_comm 256]

theorem mul_add_mod_mul (a c m y : Nat) (hy : y < m) (hc : 0 < c) : (a * m + y) % (c * m) = a % c * m + y := by
  have hlt : a % c * m + y < c * m :=
    calc a % c * m + y < (a % c + 1) * m := by rw [Nat.add_mul]; omega
      _ ≤ c * m := Nat.mul_le_mul_right _ (Nat.mod_lt _ hc)
  have : a * m + y = c * m * (a / c) + (a % c * m + y) := by
    rw [Nat.mul_right_comm, ← Nat.add_assoc, ← Nat.add_mul, Nat.div_add_mod]
  rw [this, Nat.mul_add_mod, Nat.mod_eq_of_lt hlt]

/-- masking the two tag bits of the first byte of `k + 1` bytes is reducing modulo `2^(8 (k+1) - 2)` -/
theorem beNat_mod (b0 : UInt8) (r : Bytes) :
    Spec.beNat (b0 :: r) % 2 ^ (8 * (r.length + 1) - 2) = exactVal (b0 :: r) := by
  have hp : 2 ^ (8 * (r.length + 1) - 2) = 64 * 256 ^ r.length := by
    rw [show 8 * (r.length + 1) - 2 = 6 + 8 * r.length by omega, Nat.pow_add, Nat.pow_mul]
  rw [Spec.beNat, List.foldl_cons, beNat_eq, Nat.zero_mul, Nat.zero_add, hp, exactVal,
    mul_add_mod_mul _ _ _ _ (beVal_lt r) (by omega)]

/-- the specification's variable-length integer decoder and the model's are the same function -/
theorem spec_varint_eq_dec (bs : Bytes) : Spec.varint bs = dec bs := by
  cases bs with
  | nil => rfl
  | cons b0 t =>
    simp only [Spec.varint, dec, ← parseSize_eq_pow]
    split
    · rfl
    · rename_i hlen
      obtain ⟨m, hm⟩ : ∃ m, parseSize b0 = m + 1 := ⟨parseSize b0 - 1, by have := parseSize_pos b0; omega⟩
      have hl : (t.take m).length = m := by simp only [List.length_cons] at hlen; simp; omega
      have := beNat_mod b0 (t.take m)
      rw [hl] at this
      rw [hm, List.take_succ_cons, this]

/-- … in particular the specification's decoder reads what the encoder writes -/
theorem spec_varint_reads_encoder (v : Nat) (hv : v < 2^62) (rest : Bytes) :
    Spec.varint (enc v ++ rest) = some (v, rest) := by
  rw [spec_varint_eq_dec, dec_enc v hv]

/-- every WebTransport unidirectional stream starts with stream type 0x54 then the session id;
every bidirectional one with the signal 0x41 then the session id; both as the specification's
own decoder reads them, followed by nothing but the application's bytes -/
theorem preambles_wellformed (sid : Nat) (hs : sid < 2^62) (payload : Bytes) :
    (∃ r, Spec.varint (StreamHeader.write ⟨.webtransport, some sid⟩ ++ payload) = some (Spec.STREAM_WEBTRANSPORT, r) ∧
      Spec.varint r = some (sid, payload)) ∧
    (∃ r, Spec.varint (Frame.write ⟨.webtransport, [], some sid⟩ ++ payload) = some (Spec.FRAME_WEBTRANSPORT_STREAM, r) ∧
      Spec.varint r = some (sid, payload)) := by
  constructor
  · refine ⟨enc sid ++ payload, ?_, spec_varint_reads_encoder sid hs payload⟩
    simp only [StreamHeader.write, StreamHeader.sessionIdOf, List.append_assoc]
    exact spec_varint_reads_encoder _ (by decide) _
  · refine ⟨enc sid ++ payload, ?_, spec_varint_reads_encoder sid hs payload⟩
    simp only [Frame.write, Frame.sessionIdOf, List.append_assoc]
    exact spec_varint_reads_encoder _ (by decide) _

/-- every datagram is the session's quarter stream id (session id / 4) followed by the payload -/
theorem datagrams_wellformed (sid : Nat) (hs : sid < 2^62) (hv : sid % 4 = 0) (payload : Bytes) :
    Spec.varint (Datagram.appWrite sid payload).quic = some (sid / 4, payload) := by
  simp only [Datagram.appWrite, Ids.qOfSession_eq]
  exact spec_varint_reads_encoder _ (by omega) _

/-- field sections use only static-table or literal representations: the two prefix integers
are zero (no dynamic-table state is ever referenced) -/
theorem field_section_prefix_is_zero (fs : List Qpack.Field) :
    ∃ lines, Qpack.encode fs = [0x00, 0x00] ++ lines := by
  refine ⟨fs.flatMap Qpack.encodeField, ?_⟩
  simp [Qpack.encode, Qpack.encodeInt]

/-- every Huffman string the endpoint emits is the code words of its bytes followed by fewer
than 8 one-bits — a prefix of EOS, the only padding RFC 7541 §5.2 allows -/
theorem huffman_padding_is_eos_prefix (s : Bytes) :
    ∃ k, k < 8 ∧ (Huffman.encode s).flatMap Huffman.byteBits
      = s.flatMap (fun b => Huffman.codeBits b.toNat) ++ List.replicate k true := by
  refine ⟨Huffman.padLen (s.flatMap (fun b => Huffman.codeBits b.toNat)).length, by unfold Huffman.padLen; omega, ?_⟩
  unfold Huffman.encode
  exact Huffman.packBits_bits _

/-- every header section the endpoint emits (names and values are Rust strings) is decodable,
and decodes to the map it was generated from -/
theorem emitted_header_section_decodes (h : Headers) (hnd : (h.map (·.1)).Nodup) (ht : Headers.Texts h) :
    ∃ h', Headers.withPayload (Headers.encode h) = .ok h' ∧ ∀ k, Headers.get h' k = Headers.get h k := by
  obtain ⟨h', hw, _, hg⟩ := Headers.wire_roundtrip h hnd ht
  exact ⟨h', hw, hg⟩

/-! ### non-vacuity -/
example : Spec.varint [0x40, 0x54, 0x00, 0x01] = some (0x54, [0x00, 0x01]) := by decide
example : Spec.isGrease 0x21 = true ∧ Spec.isGrease 0x40 = true ∧ Spec.isGrease 0x41 = false := by decide

end Props.C16
