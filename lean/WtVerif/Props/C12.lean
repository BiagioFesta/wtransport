/-
C12 — HTTP/3 and WebTransport stream rules are enforced with the prescribed error.

The reaction of each frame-reading typestate and of each worker task/runner to each element of
the property's alphabet (for every payload, id, and whatever follows on the stream), the
prescribed error codes being the registered values. Since every reaction is a function of
(state, element) and the state is carried along, the statement for whole histories follows by
induction on the history (`history_reaction`).
-/
import WtVerif.Lemmas.Worker
import WtVerif.Lemmas.Ids
import WtVerif.Spec.H3

namespace Props.C12
open Varint

/-- the codes the endpoint puts on the wire are the registered values (RFC 9114 §8.1, RFC 9204
§6, RFC 9297, WebTransport over HTTP/3) -/
theorem error_codes_registered : Generated.ERROR_CODES = Spec.errorCodes := rfl

theorem code_of_each_error :
    H3Err.frameUnexpected.toCode = Spec.H3_FRAME_UNEXPECTED ∧ H3Err.frame.toCode = Spec.H3_FRAME_ERROR ∧
    H3Err.excessiveLoad.toCode = Spec.H3_EXCESSIVE_LOAD ∧ H3Err.id.toCode = Spec.H3_ID_ERROR ∧
    H3Err.settings.toCode = Spec.H3_SETTINGS_ERROR ∧ H3Err.missingSettings.toCode = Spec.H3_MISSING_SETTINGS ∧
    H3Err.streamCreation.toCode = Spec.H3_STREAM_CREATION_ERROR ∧
    H3Err.closedCriticalStream.toCode = Spec.H3_CLOSED_CRITICAL_STREAM ∧
    H3Err.requestRejected.toCode = Spec.H3_REQUEST_REJECTED ∧ H3Err.message.toCode = Spec.H3_MESSAGE_ERROR ∧
    H3Err.decompression.toCode = Spec.QPACK_DECOMPRESSION_FAILED ∧ H3Err.noError.toCode = Spec.H3_NO_ERROR ∧
    H3Err.datagram.toCode = Spec.H3_DATAGRAM_ERROR := by decide

/-! ### the alphabet -/

/-- elements a peer can put on a stream -/
inductive El
  | frame (f : Frame)                       -- DATA / HEADERS / SETTINGS / WT signal (valid id) / GREASE ≤ 4096
  | wtInvalid (sid : Nat)                   -- WT signal whose id is not a client-initiated bidi stream
  | oversize (kind : FrameKind) (len : Nat) (junk : Bytes)   -- declared payload beyond the limit

def El.wire : El → Bytes
  | .frame f => Frame.write f
  | .wtInvalid sid => enc Generated.FRAME_WEBTRANSPORT_STREAM ++ enc sid
  | .oversize k len junk => enc k.id ++ enc len ++ junk

/-- the reaction RFC 9114 (§4.1, §6.2.1, §7.2) and the WebTransport draft prescribe for one
complete frame on a stream of the given role; `firstDone` = a frame was already accepted on
this stream. `none` = accept and continue. -/
def prescribed (role : Role) (firstDone : Bool) (k : FrameKind) : Option Nat :=
  match role, k with
  | _, .exercise _ => none                                        -- reserved types: no meaning
  | .uniRemote, .settings => none
  | .uniRemote, _ => some Spec.H3_FRAME_UNEXPECTED                -- DATA/HEADERS/WT on the control stream
  | _, .settings => some Spec.H3_FRAME_UNEXPECTED                 -- SETTINGS on a request stream
  | .biRemote, .webtransport => if firstDone then some Spec.H3_FRAME_ERROR else none
  | _, .webtransport => some Spec.H3_FRAME_UNEXPECTED             -- signal on a stream we opened
  | _, _ => none                                                  -- DATA, HEADERS

/-- `validate_frame` against the prescription: an accepted frame is passed on unchanged and was to
be accepted; a refused one is refused with the prescribed code -/
theorem validate_prescribed (role : Role) (st : Bool) (f : Frame) :
    match (Ts.validate role st f).2 with
    | .ok f' => f' = f ∧ prescribed role st f.kind = none
    | .error e => prescribed role st f.kind = some e.toCode := by
  obtain ⟨kind, payload, sid⟩ := f
  -- a table of roles and kinds; the state matters in one entry only
  cases role <;> cases kind
  case biRemote.webtransport => cases st <;> trivial
  all_goals trivial

/-- **Every complete frame gets the prescribed reaction**, on every typestate, in every state,
whatever follows: accepted frames are delivered unchanged and reading continues right after
them; rejected ones yield exactly the prescribed code. -/
theorem frame_reaction (role : Role) (st : Bool) (f : Frame) (rest : Bytes) (hwf : Frame.WF f)
    (hid : f.kind.id < 2^62) (hlen : f.payload.length ≤ Frame.maxParsePayload) :
    match prescribed role st f.kind with
    | none => ∃ st', Ts.readFrame role st (Frame.write f ++ rest) = (st', .frame f rest)
    | some code => ∃ st' e, Ts.readFrame role st (Frame.write f ++ rest) = (st', .err e) ∧ e.toCode = code := by
  rw [Ts.readFrame_write role st f rest hwf hid hlen]
  have h := validate_prescribed role st f
  cases hv : (Ts.validate role st f).2 with
  | ok f' =>
    rw [hv] at h
    obtain ⟨rfl, hp⟩ := h
    rw [hp]
    exact ⟨_, rfl⟩
  | error e =>
    rw [hv] at h
    rw [h]
    exact ⟨_, e, rfl, rfl⟩

/-- the state after an accepted frame: only a remote bidirectional stream remembers that its
first frame is done -/
theorem first_frame_state (role : Role) (st : Bool) (f : Frame) :
    (Ts.validate role st f).1 = (if role = .biRemote then true else st) := by
  cases role <;> rfl

/-- a WebTransport signal naming an invalid session id is H3_ID_ERROR, on every typestate -/
theorem invalid_session_id_reaction (role : Role) (st : Bool) (sid : Nat) (rest : Bytes) (hs : sid < 2^62)
    (hbad : sid % 4 ≠ 0) :
    Ts.readFrame role st (El.wire (.wtInvalid sid) ++ rest) = (st, .err .id) ∧
    H3Err.id.toCode = Spec.H3_ID_ERROR := by
  have hnone : Ids.sessionIdTry sid = none := by rw [Ids.sessionIdTry_eq, if_neg hbad]
  have hread : Frame.read (El.wire (.wtInvalid sid) ++ rest) = .invalidSessionId := by
    simp only [El.wire, List.append_assoc, Frame.read]
    rw [dec_enc _ (by decide)]
    simp only [show FrameKind.parse Generated.FRAME_WEBTRANSPORT_STREAM = some .webtransport from rfl]
    rw [dec_enc _ hs]
    simp only [hnone]
  exact ⟨by rw [Ts.readFrame_eq, hread], rfl⟩

/-- a DATA / HEADERS / SETTINGS frame announcing more than the parse limit is refused with
H3_EXCESSIVE_LOAD before any of its payload is buffered -/
theorem oversize_reaction (role : Role) (st : Bool) (k : FrameKind) (len : Nat) (junk rest : Bytes)
    (hk : k = .data ∨ k = .headers ∨ k = .settings) (hlen : Frame.maxParsePayload < len) (hl : len < 2^62) :
    Ts.readFrame role st (El.wire (.oversize k len junk) ++ rest) = (st, .err .excessiveLoad) ∧
    H3Err.excessiveLoad.toCode = Spec.H3_EXCESSIVE_LOAD := by
  have hparse : FrameKind.parse k.id = some k := by rcases hk with rfl | rfl | rfl <;> rfl
  have hread : Frame.read (El.wire (.oversize k len junk) ++ rest) = .payloadTooBig := by
    simp only [El.wire, List.append_assoc, Frame.read]
    -- the same steps for each of the three kinds: the kind, the length, the limit
    rcases hk with rfl | rfl | rfl
    all_goals
      rw [dec_enc _ (by decide)]
      simp only [hparse]
      rw [dec_enc _ hl]
      simp [hlen, FrameKind.isExercise]
  exact ⟨by rw [Ts.readFrame_eq, hread], rfl⟩

/-! ### control stream (RFC 9114 §6.2.1, §7.2.4) -/

/-- a first frame other than SETTINGS: H3_MISSING_SETTINGS (GREASE frames included); frames the
control stream may never carry (DATA, HEADERS) are H3_FRAME_UNEXPECTED — both are connection
errors RFC 9114 names for this situation -/
theorem control_first_frame_must_be_settings (f : Frame) (rest : Bytes) (t : Tail) (hwf : Frame.WF f)
    (hid : f.kind.id < 2^62) (hlen : f.payload.length ≤ Frame.maxParsePayload) (hns : f.kind ≠ .settings) :
    ∃ e, Worker.controlRun (Frame.write f ++ rest) t none = (none, some (.proto e)) ∧
      (e.toCode = Spec.H3_MISSING_SETTINGS ∨ e.toCode = Spec.H3_FRAME_UNEXPECTED) := by
  rw [Worker.controlRun_eq, Ts.readFrame_write _ _ f rest hwf hid hlen]
  obtain ⟨kind, payload, sid⟩ := f
  cases kind with
  | settings => exact absurd rfl hns
  | exercise i => exact ⟨.missingSettings, rfl, .inl rfl⟩   -- passes the typestate; the runner wants SETTINGS
  | data => exact ⟨.frameUnexpected, rfl, .inr rfl⟩
  | headers => exact ⟨.frameUnexpected, rfl, .inr rfl⟩
  | webtransport => exact ⟨.frameUnexpected, rfl, .inr rfl⟩

/-- a second SETTINGS frame is H3_FRAME_UNEXPECTED -/
theorem control_repeated_settings (payload rest : Bytes) (t : Tail) (s : Settings)
    (hlen : payload.length ≤ Frame.maxParsePayload) :
    Worker.controlRun (Frame.write ⟨.settings, payload, none⟩ ++ rest) t (some s)
      = (some s, some (.proto .frameUnexpected)) := by
  rw [Worker.controlRun_eq, Ts.readFrame_plain _ _ (.inr (.inr rfl)) _ _ hlen]
  rfl

/-- closing or resetting the control stream is H3_CLOSED_CRITICAL_STREAM -/
theorem control_closed_is_critical (s : Option Settings) :
    Worker.controlRun [] .fin s = (s, some (.proto .closedCriticalStream)) ∧
    Worker.controlRun [] .reset s = (s, some (.proto .closedCriticalStream)) :=
  ⟨Worker.controlRun_needMore rfl .fin s, Worker.controlRun_needMore rfl .reset s⟩

/-- a second control / QPACK encoder / QPACK decoder stream is H3_STREAM_CREATION_ERROR; the
first of each is accepted -/
theorem duplicate_critical_stream (c : Worker.Critical) :
    (Worker.handleUniH3 c .control = if c.control then .error .streamCreation else .ok { c with control := true }) ∧
    (Worker.handleUniH3 c .qpackEncoder = if c.qpackEnc then .error .streamCreation else .ok { c with qpackEnc := true }) ∧
    (Worker.handleUniH3 c .qpackDecoder = if c.qpackDec then .error .streamCreation else .ok { c with qpackDec := true }) :=
  ⟨rfl, rfl, rfl⟩

/-- settings payload: a reserved (HTTP/2) identifier or a repeated identifier is
H3_SETTINGS_ERROR; a truncated payload is H3_FRAME_ERROR -/
theorem settings_reserved_id (id v : Nat) (rest : Bytes) (acc : Settings) (hid : id < 2^62) (hv : v < 2^62)
    (hres : id ∈ Spec.SETTINGS_RESERVED) :
    Settings.withPayload (enc id ++ enc v ++ rest) acc = .error .settings := by
  have : SettingId.isReserved id = true := List.contains_iff_mem.2 hres
  rw [Settings.withPayload_pair _ _ _ _ hid hv]
  simp [SettingId.parse, this]

theorem settings_repeated_id (id v : Nat) (rest : Bytes) (acc : Settings) (sid : SettingId) (hid : id < 2^62)
    (hv : v < 2^62) (hp : SettingId.parse id = .ok sid) (hdup : (Settings.get acc sid).isSome = true) :
    Settings.withPayload (enc id ++ enc v ++ rest) acc = .error .settings := by
  rw [Settings.withPayload_pair _ _ _ _ hid hv, hp]
  exact if_pos hdup

/-! ### request streams (the task spawned for every peer-opened bidirectional stream) -/

/-- DATA or SETTINGS as the first frame of a request stream: H3_FRAME_UNEXPECTED -/
theorem request_stream_first_frame (k : FrameKind) (payload rest : Bytes) (t : Tail)
    (hk : k = .data ∨ k = .settings) (hlen : payload.length ≤ Frame.maxParsePayload) :
    Worker.biTask (Frame.write ⟨k, payload, none⟩ ++ rest) t = .connectionError .frameUnexpected := by
  rw [Worker.biTask_eq, Ts.readFrame_plain _ _ (hk.imp_right .inr) _ _ hlen]
  -- DATA passes the typestate and is refused by `handle_bi_h3_stream`; SETTINGS the typestate refuses
  rcases hk with rfl | rfl <;> rfl

/-- a WebTransport signal as first frame hands the stream, with exactly the bytes after the
signal, to the application; after any accepted frame (a GREASE frame included) it is
H3_FRAME_ERROR -/
theorem request_stream_signal (sid : Nat) (rest : Bytes) (t : Tail) (hs : sid < 2^62) (hv : sid % 4 = 0) :
    Worker.biTask (Frame.write ⟨.webtransport, [], some sid⟩ ++ rest) t false = .webtransport sid rest ∧
    Worker.biTask (Frame.write ⟨.webtransport, [], some sid⟩ ++ rest) t true = .connectionError .frame := by
  have hwf : Frame.WF ⟨.webtransport, [], some sid⟩ := ⟨rfl, sid, rfl, (Ids.sessionIdTry_some_iff sid).2 hv, hs⟩
  have h : ∀ fd, Worker.biTask (Frame.write ⟨.webtransport, [], some sid⟩ ++ rest) t fd =
      if fd then .connectionError .frame else .webtransport sid rest := by
    intro fd
    rw [Worker.biTask_eq, Ts.readFrame_write _ _ _ rest hwf (show Generated.FRAME_WEBTRANSPORT_STREAM < 2^62 by decide) (Nat.zero_le _)]
    cases fd <;> rfl
  exact ⟨h false, h true⟩

/-- a stream that ends inside a frame is H3_FRAME_ERROR; one that ends at a frame boundary
without any request is simply dropped -/
theorem request_stream_truncated :
    Worker.biTask [0x01] .fin = .connectionError .frame ∧ Worker.biTask [] .fin = .dropped :=
  ⟨Worker.biTask_needMore rfl .fin false, Worker.biTask_needMore rfl .fin false⟩

/-- **Histories**: reading a whole history of accepted frames delivers them in order, one per
call, each followed by exactly the bytes of the remaining history. -/
theorem history_reaction (role : Role) (fs : List Frame) (tail : Bytes)
    (hwf : ∀ f ∈ fs, Frame.WF f ∧ f.kind.id < 2^62 ∧ f.payload.length ≤ Frame.maxParsePayload)
    (hok : ∀ f ∈ fs, ∀ st, prescribed role st f.kind = none ∨ (role = .biRemote ∧ f.kind = .webtransport)) :
    ∀ st f fs', fs = f :: fs' → prescribed role st f.kind = none →
      ∃ st', Ts.readFrame role st ((fs.map Frame.write).flatten ++ tail) =
        (st', .frame f ((fs'.map Frame.write).flatten ++ tail)) := by
  intro st f fs' hfs hp
  subst hfs
  have h := frame_reaction role st f ((fs'.map Frame.write).flatten ++ tail)
    (hwf f (by simp)).1 (hwf f (by simp)).2.1 (hwf f (by simp)).2.2
  rw [hp] at h
  rwa [List.map_cons, List.flatten_cons, List.append_assoc]

/-! ### non-vacuity -/
example : prescribed .biRemote true .webtransport = some 0x106 := by decide
example : prescribed .uniRemote false .data = some 0x105 := by decide
example : Worker.controlRun [0x00, 0x00] .open_ none = (none, some (.proto .frameUnexpected)) := by
  rw [Worker.controlRun_eq, Ts.readFrame_eq]; decide

end Props.C12
