/-
C18 — Only well-formed WebTransport requests and responses are admitted.
-/
import WtVerif.Lemmas.Headers
import WtVerif.Lemmas.Worker

namespace Props.C18
open Session

/-- what `TryFrom<Headers> for SessionRequest` accepts, and that it hands the map over as it is -/
theorem requestTryFrom_ok_iff (h r : Headers) :
    requestTryFrom h = .ok r ↔ r = h ∧
      Headers.get h Names.method = some Names.connect ∧ Headers.get h Names.scheme = some Names.https ∧
      Headers.get h Names.protocol = some Names.webtransport ∧
      (Headers.get h Names.authority).isSome ∧ (Headers.get h Names.path).isSome := by
  unfold requestTryFrom
  constructor
  · intro hr
    -- each of the eight checks either ends in an error or records what it found
    repeat' split at hr
    all_goals cases hr
    simp_all
  · rintro ⟨rfl, h1, h2, h3, h4, h5⟩
    obtain ⟨a, ha⟩ := Option.isSome_iff_exists.1 h4
    obtain ⟨p, hp⟩ := Option.isSome_iff_exists.1 h5
    simp [h1, h2, h3, ha, hp]

/-- A request is admitted iff it is an extended CONNECT with protocol `webtransport`, scheme
`https`, and both authority and path present — for every header map, whatever else it holds. -/
theorem admitted_iff (h : Headers) :
    (∃ r, requestTryFrom h = .ok r) ↔
      Headers.get h Names.method = some Names.connect ∧ Headers.get h Names.scheme = some Names.https ∧
      Headers.get h Names.protocol = some Names.webtransport ∧
      (Headers.get h Names.authority).isSome ∧ (Headers.get h Names.path).isSome :=
  ⟨fun ⟨r, hr⟩ => ((requestTryFrom_ok_iff h r).1 hr).2, fun hh => ⟨h, (requestTryFrom_ok_iff h h).2 ⟨rfl, hh⟩⟩⟩

/-- an admitted request is handed over unchanged: authority and path are the fields received -/
theorem admitted_unchanged (h r : Headers) (hr : requestTryFrom h = .ok r) : r = h :=
  ((requestTryFrom_ok_iff h r).1 hr).1

/-- any other decodable request is refused on its own stream — H3_REQUEST_REJECTED for a method
other than CONNECT, H3_MESSAGE_ERROR otherwise — never by closing the connection -/
theorem malformed_request_refused_on_its_stream (payload : Bytes) (h : Headers)
    (hd : Headers.withPayload payload = .ok h) (hbad : ∀ r, requestTryFrom h ≠ .ok r) :
    Session.admitRequest payload = .refuseStream .requestRejected ∨ Session.admitRequest payload = .refuseStream .message := by
  unfold Session.admitRequest
  rw [hd]
  simp only
  cases hr : requestTryFrom h with
  | ok r => exact absurd hr (hbad r)
  | error e => cases e <;> simp

/-- … and that is what the worker's task does with such a first HEADERS frame -/
theorem malformed_request_keeps_connection (payload rest : Bytes) (t : Tail) (h : Headers)
    (hlen : payload.length ≤ Frame.maxParsePayload)
    (hd : Headers.withPayload payload = .ok h) (hbad : ∀ r, requestTryFrom h ≠ .ok r) :
    ∃ e, Worker.biTask (Frame.write ⟨.headers, payload, none⟩ ++ rest) t = .refuseStream e := by
  rw [Worker.biTask_eq, Ts.readFrame_plain _ _ (.inr (.inl rfl)) _ _ hlen]
  rcases malformed_request_refused_on_its_stream payload h hd hbad with h1 | h1 <;>
    simp [Ts.validate, FrameKind.isExercise, Frame.sessionIdOf, h1]

/-- **A status value never escapes 100..=599 through any constructor** (`TryFrom<u8/u16/u32/u64>`,
`try_from_u32`, `FromStr`) -/
theorem status_never_escapes :
    (∀ v c, Ids.statusTry v = some c → c = v ∧ 100 ≤ c ∧ c ≤ 599) ∧
    (∀ s c, Ids.statusFromStr s = some c → 100 ≤ c ∧ c ≤ 599) := by
  have key : ∀ v c, Ids.statusTry v = some c → c = v ∧ 100 ≤ c ∧ c ≤ 599 := by
    intro v c h
    unfold Ids.statusTry Ids.statusMin Ids.statusMax at h
    simp only [Generated.STATUS_MIN, Generated.STATUS_MAX] at h
    split at h
    · cases h; omega
    · cases h
  refine ⟨key, ?_⟩
  intro s c h
  unfold Ids.statusFromStr at h
  split at h
  · cases h
  · exact (key _ _ h).2

/-- every value in range is constructible -/
theorem status_in_range_accepted (v : Nat) (h : 100 ≤ v ∧ v ≤ 599) : Ids.statusTry v = some v := by
  unfold Ids.statusTry Ids.statusMin Ids.statusMax
  simp only [Generated.STATUS_MIN, Generated.STATUS_MAX]
  simp [h]

/-- a response counts as acceptance only with a valid status within 200..=299; a missing,
non-numeric or out-of-range status is malformed (H3_MESSAGE_ERROR), never acceptance -/
theorem accept_only_2xx (payload : Bytes) (h : Headers) (hd : Headers.withPayload payload = .ok h) :
    (clientVerdict payload = .established ↔
      ∃ c, responseTryFrom h = .ok c ∧ 200 ≤ c ∧ c ≤ 299) ∧
    ((∀ c, responseTryFrom h ≠ .ok c) → clientVerdict payload = .localError .message) := by
  unfold clientVerdict
  rw [hd]
  simp only
  cases hr : responseTryFrom h with
  | error e => simp
  | ok c =>
    refine ⟨?_, fun hno => absurd rfl (hno c)⟩
    simp only [Except.ok.injEq, exists_eq_left', ← Ids.isSuccessful_iff]
    cases Ids.isSuccessful c <;> simp

/-- the status a response is judged by lies in 100..=599 -/
theorem response_status_in_range (h : Headers) (c : Nat) (hr : responseTryFrom h = .ok c) : 100 ≤ c ∧ c ≤ 599 := by
  unfold responseTryFrom at hr
  split at hr
  · cases hr
  · split at hr
    · rename_i c' hc'; cases hr; exact status_never_escapes.2 _ _ hc'
    · cases hr

/-- **Reserved pseudo-header fields can never be overridden**: `insert` refuses exactly the five
reserved names, and accepting any other name leaves all five untouched. -/
theorem reserved_never_overridden (h : Headers) (k v : Bytes) :
    (requestInsert h k v = none ↔ k ∈ [Names.method, Names.scheme, Names.protocol, Names.authority, Names.path]) ∧
    (∀ h', requestInsert h k v = some h' →
      ∀ r ∈ [Names.method, Names.scheme, Names.protocol, Names.authority, Names.path],
        Headers.get h' r = Headers.get h r) := by
  have hres : Generated.RESERVED_HEADERS_BYTES.any (fun r => decide (r = k)) = true ↔ k ∈ Names.reserved := by
    simp only [List.any_eq_true, decide_eq_true_eq, exists_eq_right]
    exact Iff.rfl
  unfold requestInsert
  by_cases hk : k ∈ Names.reserved
  · rw [if_pos (hres.2 hk)]
    exact ⟨⟨fun _ => hk, fun _ => rfl⟩, nofun⟩
  · rw [if_neg (mt hres.1 hk)]
    refine ⟨⟨nofun, fun hk' => absurd hk' hk⟩, ?_⟩
    rintro h' ⟨⟩ r hr
    rw [Headers.get_insert, if_neg (fun (e : r = k) => hk (e ▸ hr))]

/-- **Authority and path are exactly the URL's authority and path-plus-query.** -/
theorem authority_path_exact (authority path : Bytes) (query : Option Bytes) :
    Headers.get (requestNew authority path query) Names.authority = some authority ∧
    Headers.get (requestNew authority path query) Names.path =
      some (match query with | some q => path ++ [63] ++ q | none => path) ∧
    Headers.get (requestNew authority path query) Names.method = some Names.connect ∧
    Headers.get (requestNew authority path query) Names.scheme = some Names.https ∧
    Headers.get (requestNew authority path query) Names.protocol = some Names.webtransport := by
  -- the five names are distinct closed byte strings: `decide` settles every comparison `get_insert` asks for
  simp +decide [requestNew, Headers.get_insert]
  cases query <;> rfl

/-! ### non-vacuity -/
example : ∃ r, requestTryFrom (requestNew [101, 120] [47, 97] (some [120, 61, 49])) = .ok r :=
  (admitted_iff _).2 (by
    have h := authority_path_exact [101, 120] [47, 97] (some [120, 61, 49])
    refine ⟨h.2.2.1, h.2.2.2.1, h.2.2.2.2, ?_, ?_⟩
    · rw [h.1]; rfl
    · rw [h.2.1]; rfl)

/-- the names and fixed values the model uses are the literals of `session.rs` (regenerated) -/
theorem names_tied_to_source :
    Generated.RESERVED_HEADERS_BYTES = Names.reserved ∧
    Generated.REQUEST_HEADERS_BYTES = [(Names.method, Names.connect), (Names.scheme, Names.https),
      (Names.protocol, Names.webtransport), (Names.authority, []), (Names.path, [])] ∧
    Generated.REQUEST_TRYFROM_CHECKS = [(Names.method, some Names.connect), (Names.scheme, some Names.https),
      (Names.protocol, some Names.webtransport), (Names.authority, none), (Names.path, none)] ∧
    Generated.STATUS_HEADER_BYTES = Names.status := ⟨rfl, rfl, rfl, rfl⟩
example : Ids.statusFromStr ['6', '0', '0'] = none ∧ Ids.statusFromStr ['9', '9'] = none ∧
    Ids.statusFromStr ['0'] = none ∧ Ids.statusFromStr ['6', '5', '5', '3', '5'] = none ∧
    Ids.statusFromStr ['2', '0', '0'] = some 200 := by decide

end Props.C18
