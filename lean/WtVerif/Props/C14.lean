/-
C14 — Encoding and decoding are exact inverses with exact sizes.

Only property theorems and their non-vacuity examples live here; helper lemmas are in
`WtVerif/Lemmas`. Every statement quantifies over all values / payloads / remaining input.
-/
import WtVerif.Lemmas.Frame
import WtVerif.Lemmas.Settings
import WtVerif.Lemmas.Huffman
import WtVerif.Lemmas.Qpack

namespace Props.C14
open Varint

/-- Decoding the encoding of any representable integer yields the integer and consumes exactly
the encoded bytes (whatever follows them). -/
theorem varint_roundtrip (v : Nat) (hv : v < 2^62) (rest : Bytes) :
    dec (enc v ++ rest) = some (v, rest) := dec_enc v hv rest

/-- The encoder writes exactly the number of bytes `VarInt::size` announces. -/
theorem varint_size_exact (v : Nat) : (enc v).length = size v := enc_length v

/-- Shortest form: no byte string that decodes to `v` (consuming all of itself) is shorter than
the encoder's output. -/
theorem varint_shortest (v : Nat) (bs : Bytes) (h : dec bs = some (v, [])) :
    (enc v).length ≤ bs.length := by
  rw [enc_length]
  exact size_le_of_dec h

/-- the size is one of the four QUIC lengths and is the least that can hold the value -/
theorem varint_size_spec (v : Nat) (hv : v < 2^62) :
    (size v = 1 ↔ v < 2^6) ∧ (size v = 2 ↔ 2^6 ≤ v ∧ v < 2^14) ∧
    (size v = 4 ↔ 2^14 ≤ v ∧ v < 2^30) ∧ (size v = 8 ↔ 2^30 ≤ v) := by
  rcases size_cases v with h | h | h | h <;> omega

/-- The varint code is uniquely decodable inside a stream: two encodings followed by arbitrary
remaining bytes coincide only if both the integers and the remainders coincide (so a sequence of
varints — a frame header, a SETTINGS body — can be split in only one way). -/
theorem varint_prefix_free (a b : Nat) (ha : a < 2^62) (hb : b < 2^62) (r₁ r₂ : Bytes)
    (h : enc a ++ r₁ = enc b ++ r₂) : a = b ∧ r₁ = r₂ := by
  have h₁ := dec_enc a ha r₁
  rw [h, dec_enc b hb r₂] at h₁
  simp only [Option.some.injEq, Prod.mk.injEq] at h₁
  exact ⟨h₁.1.symm, h₁.2.symm⟩

/-- distinct representable integers have distinct encodings -/
theorem varint_enc_injective (a b : Nat) (ha : a < 2^62) (hb : b < 2^62) (h : enc a = enc b) :
    a = b :=
  (varint_prefix_free a b ha hb [] [] (by simpa using h)).1

/-- the encoded size never shrinks when the value grows -/
theorem varint_size_mono (a b : Nat) (h : a ≤ b) : size a ≤ size b := by
  rcases size_cases a with ha | ha | ha | ha <;> rcases size_cases b with hb | hb | hb | hb <;> omega

example : enc 63 ++ [1] ≠ enc 64 := by decide

/-- `VarInt::try_from_u64` accepts exactly the values below 2^62 -/
theorem varint_max_is_2_62_minus_1 : Generated.VARINT_MAX + 1 = 2^62 := by decide

/-- Every frame `Frame::new*` can build (payload within the parse limit) decodes from its
encoding to an equal frame, consuming exactly the encoded bytes. -/
theorem frame_roundtrip (f : Frame) (rest : Bytes) (hwf : Frame.WF f) (hid : f.kind.id < 2^62)
    (hlen : f.payload.length ≤ Frame.maxParsePayload) :
    Frame.read (Frame.write f ++ rest) = .frame f rest := Frame.read_write f rest hwf hid hlen

/-- Frames are uniquely decodable inside a stream: two well-formed frames followed by arbitrary
remaining bytes give the same byte string only if the frames and the remainders are equal — a
stream of frames can be cut in one way only. -/
theorem frame_stream_unique (f g : Frame) (r₁ r₂ : Bytes)
    (hf : Frame.WF f) (hg : Frame.WF g) (hfi : f.kind.id < 2^62) (hgi : g.kind.id < 2^62)
    (hfl : f.payload.length ≤ Frame.maxParsePayload)
    (hgl : g.payload.length ≤ Frame.maxParsePayload)
    (h : Frame.write f ++ r₁ = Frame.write g ++ r₂) : f = g ∧ r₁ = r₂ := by
  have h₁ := Frame.read_write f r₁ hf hfi hfl
  rw [h, Frame.read_write g r₂ hg hgi hgl] at h₁
  injection h₁ with h₂ h₃
  exact ⟨h₂.symm, h₃.symm⟩

/-- `write` emits exactly `write_size` bytes -/
theorem frame_size_exact (f : Frame) : (Frame.write f).length = Frame.writeSize f :=
  Frame.write_length f

/-- `write_to_buffer`: a destination smaller than `write_size` is refused and left untouched,
any other receives exactly the encoding. -/
theorem frame_write_to_buffer (f : Frame) (cap : Nat) :
    (cap < Frame.writeSize f → Frame.writeToBuffer f cap = none) ∧
    (Frame.writeSize f ≤ cap → Frame.writeToBuffer f cap = some (Frame.write f)) := by
  unfold Frame.writeToBuffer
  constructor <;> intro h <;> simp <;> omega

/-- `read_from_buffer` advances the reader by exactly the encoded length on success -/
theorem frame_buffered_advance (f : Frame) (rest : Bytes) (hwf : Frame.WF f) (hid : f.kind.id < 2^62)
    (hlen : f.payload.length ≤ Frame.maxParsePayload) :
    Frame.readFromBuffer (Frame.write f ++ rest) = (.frame f rest, Frame.writeSize f) := by
  unfold Frame.readFromBuffer
  rw [Frame.read_write f rest hwf hid hlen]
  simp [Frame.write_length]

theorem stream_header_roundtrip (h : StreamHeader) (rest : Bytes) (hwf : StreamHeader.WF h)
    (hid : h.kind.id < 2^62) :
    StreamHeader.read (StreamHeader.write h ++ rest) = .header h rest :=
  StreamHeader.read_write h rest hwf hid

/-- stream headers are uniquely decodable in front of arbitrary stream content -/
theorem stream_header_unique (a b : StreamHeader) (r₁ r₂ : Bytes)
    (ha : StreamHeader.WF a) (hb : StreamHeader.WF b)
    (hai : a.kind.id < 2^62) (hbi : b.kind.id < 2^62)
    (h : StreamHeader.write a ++ r₁ = StreamHeader.write b ++ r₂) : a = b ∧ r₁ = r₂ := by
  have h₁ := StreamHeader.read_write a r₁ ha hai
  rw [h, StreamHeader.read_write b r₂ hb hbi] at h₁
  injection h₁ with h₂ h₃
  exact ⟨h₂.symm, h₃.symm⟩

theorem stream_header_size_exact (h : StreamHeader) :
    (StreamHeader.write h).length = StreamHeader.writeSize h := StreamHeader.write_length h

/-- a stream header never needs more than `StreamHeader::MAX_SIZE` bytes -/
theorem stream_header_max_size (h : StreamHeader) :
    StreamHeader.writeSize h ≤ Generated.STREAM_HEADER_MAX_SIZE := by
  unfold StreamHeader.writeSize
  have := size_le h.kind.id
  cases hs : StreamHeader.sessionIdOf h with
  | none => simp only [Generated.STREAM_HEADER_MAX_SIZE]; omega
  | some s => have := size_le s; simp only [Generated.STREAM_HEADER_MAX_SIZE]; omega

/-- HTTP/3 datagram: for every quarter stream id in range and every payload, reading what
`write` produced gives back the id and the payload, byte for byte. -/
theorem datagram_roundtrip (q : Nat) (payload : Bytes) (hq : q ≤ Ids.qMax) (cap : Nat)
    (hcap : Datagram.writeSize q payload ≤ cap) :
    ∃ bs, Datagram.write q payload cap = some bs ∧ bs.length = Datagram.writeSize q payload ∧
      Datagram.read bs = .ok q payload := by
  refine ⟨enc q ++ payload, ?_, ?_, Datagram.read_write q payload hq⟩
  · unfold Datagram.write; simp; omega
  · simp [Datagram.writeSize, Datagram.headerSize, enc_length]

/-- Two datagrams with the same bytes on the wire carry the same session (quarter stream id) and
the same payload: the receiver can never attribute a datagram to another session or cut its
payload differently than the sender did. -/
theorem datagram_wire_unique (q₁ q₂ : Nat) (p₁ p₂ : Bytes) (cap₁ cap₂ : Nat) (bs : Bytes)
    (h₁q : q₁ ≤ Ids.qMax) (h₂q : q₂ ≤ Ids.qMax)
    (h₁ : Datagram.write q₁ p₁ cap₁ = some bs) (h₂ : Datagram.write q₂ p₂ cap₂ = some bs) :
    q₁ = q₂ ∧ p₁ = p₂ := by
  unfold Datagram.write at h₁ h₂
  split at h₁
  · cases h₁
  split at h₂
  · cases h₂
  have e₁ : Varint.enc q₁ ++ p₁ = bs := Option.some.inj h₁
  have e₂ : Varint.enc q₂ ++ p₂ = bs := Option.some.inj h₂
  have r₁ := Datagram.read_write q₁ p₁ h₁q
  have r₂ := Datagram.read_write q₂ p₂ h₂q
  rw [e₁] at r₁
  rw [e₂, r₁] at r₂
  injection r₂ with ha hb
  exact ⟨ha, hb⟩

/-- a too-small destination is refused, nothing written -/
theorem datagram_too_small (q : Nat) (payload : Bytes) (cap : Nat)
    (hcap : cap < Datagram.writeSize q payload) : Datagram.write q payload cap = none := by
  unfold Datagram.write; simp [hcap]


/-! ### SETTINGS -/

/-- Whatever order `generate_frame` walks the settings map in, `with_frame` on the payload it
wrote returns exactly those entries; a map has distinct ids, GREASE ids are GREASE ids, and ids
and values are representable integers. -/
theorem settings_roundtrip (s : Settings)
    (hwf : ∀ p ∈ s, p.1.WF ∧ p.1.id < 2^62 ∧ p.2 < 2^62) (hnd : (s.map (·.1)).Nodup) :
    Settings.withPayload (Settings.encode s) [] = .ok s := by
  have := Settings.withPayload_encode s [] hwf hnd (fun _ _ => rfl)
  simpa using this

/-! ### header-field sections (QPACK with the linked Huffman coder) -/

/-- The linked Huffman coder is an inverse pair on every byte string (the per-symbol facts are
decided by the kernel over the whole regenerated tables). -/
theorem huffman_roundtrip (s : Bytes) : Huffman.decode (Huffman.encode s) = some s :=
  Huffman.decode_encode s

/-- QPACK prefix integers of every prefix width round-trip and leave what follows untouched. -/
theorem qpack_int_roundtrip (n flags v : Nat) (rest : Bytes) (hn : 1 ≤ n ∧ n ≤ 8)
    (hf : flags < 2 ^ (8 - n)) (hv : v < 2 ^ 64) :
    Qpack.decodeInt n (Qpack.encodeInt n flags v ++ rest) = .ok (flags, v, rest) :=
  Qpack.decodeInt_encodeInt n flags v rest hn hf hv

/-- QPACK string literals round-trip for every valid UTF-8 string, whether the Huffman form or
the raw form was the shorter one. -/
theorem qpack_string_roundtrip (n flags : Nat) (s rest : Bytes) (hn : 1 ≤ n ∧ n ≤ 8)
    (hf : flags * 2 + 1 < 2 ^ (8 - n)) (hu : Utf8.valid s = true) (hl : s.length < 2 ^ 64) :
    Qpack.decodeString n (Qpack.encodeString n flags s ++ rest) = .ok (s, rest) :=
  Qpack.decodeString_encodeString n flags s rest hn hf hu (Huffman.decode_encode s) hl

/-- **Header sections round-trip**: for every list of fields over valid UTF-8 names and values
(static-table hits, name-only hits and literals alike), decoding the encoding yields the map of
those fields. -/
theorem header_section_roundtrip (fs : List Qpack.Field)
    (hu : ∀ f ∈ fs, Utf8.valid f.1 = true ∧ Utf8.valid f.2 = true ∧ f.1.length < 2^64 ∧ f.2.length < 2^64) :
    Qpack.decode (Qpack.encode fs) = .ok (fs.foldl (fun m f => Qpack.mapInsert m f.1 f.2) []) :=
  Qpack.decode_encode fs (fun f hf =>
    ⟨(hu f hf).1, (hu f hf).2.1, Huffman.decode_encode _, Huffman.decode_encode _, (hu f hf).2.2.1, (hu f hf).2.2.2⟩)

/-- …and when the names are distinct (the iteration of a `HashMap`), exactly those fields in
that order. -/
theorem header_map_roundtrip (fs : List Qpack.Field)
    (hu : ∀ f ∈ fs, Utf8.valid f.1 = true ∧ Utf8.valid f.2 = true ∧ f.1.length < 2^64 ∧ f.2.length < 2^64)
    (hnd : (fs.map (·.1)).Nodup) :
    Qpack.decode (Qpack.encode fs) = .ok fs := by
  rw [header_section_roundtrip fs hu, Qpack.foldl_mapInsert_nodup fs [] (by simpa using hnd)]
  rfl

/-! ### non-vacuity: concrete values meeting the hypotheses -/

example : dec (enc 16384 ++ [7]) = some (16384, [7]) := by decide
example : (enc (2^62 - 1)).length = 8 := by decide
example : Frame.WF ⟨.webtransport, [], some 4⟩ ∧ (FrameKind.webtransport).id < 2^62 := by
  refine ⟨⟨rfl, 4, rfl, by decide, by decide⟩, by decide⟩
example : Frame.WF ⟨.exercise 33, [1, 2, 3], none⟩ := ⟨by decide, by decide, rfl⟩
example : Frame.read (Frame.write ⟨.headers, [1, 2, 3], none⟩ ++ [9]) = .frame ⟨.headers, [1, 2, 3], none⟩ [9] := by
  decide
example : StreamHeader.WF ⟨.webtransport, some 8⟩ := ⟨8, rfl, by decide, by decide⟩
example : Qpack.decode (Qpack.encode [([58, 109, 101, 116, 104, 111, 100], [67, 79, 78, 78, 69, 67, 84]), ([120], [121, 122])])
    = .ok [([58, 109, 101, 116, 104, 111, 100], [67, 79, 78, 78, 69, 67, 84]), ([120], [121, 122])] := by decide +kernel
example : (SettingId.exercise 64).WF := by show SettingId.isExercise 64 = true; decide
example : Settings.withPayload (Settings.encode [(.h3Datagram, 1), (.exercise 64, 9)]) [] = .ok [(.h3Datagram, 1), (.exercise 64, 9)] := by
  refine settings_roundtrip _ ?_ (by decide)
  intro p hp
  simp only [List.mem_cons, List.not_mem_nil, or_false] at hp
  rcases hp with rfl | rfl
  · exact ⟨trivial, by decide, by decide⟩
  · exact ⟨by show SettingId.isExercise 64 = true; decide, by decide, by decide⟩

end Props.C14
