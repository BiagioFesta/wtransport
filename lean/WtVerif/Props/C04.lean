/-
C04 — Session termination is reported with the peer's exact code and reason.

`Worker.connectRun` is the session-stream runner as a function of everything the peer sent on
the CONNECT stream after the request/response (`bs`) and of how the stream ends (`t`);
`ConnError.withDriverError` is what every waiting and every later operation reports once the
runner has decided (Props/C09: the decision is stored once and read by all).
-/
import WtVerif.Props.C13

namespace Props.C04
open Varint

theorem body_length (code : Nat) (reason : Bytes) : (beBytes code 4 ++ reason).length = 4 + reason.length := by
  rw [List.length_append, beBytes_length]

/-- a close capsule is its type, the length of its body, and the body: the code in four
big-endian bytes, then the reason -/
theorem encodeClose_eq (code : Nat) (reason : Bytes) :
    Capsule.encodeClose code reason = enc Generated.CAPSULE_CLOSE_WEBTRANSPORT_SESSION ++
      enc (beBytes code 4 ++ reason).length ++ (beBytes code 4 ++ reason) := by
  rw [body_length]
  simp [Capsule.encodeClose, beBytes, b]

/-- `with_frame` finds the body of a close capsule … -/
theorem withPayload_close (body : Bytes) (h : body.length < 2^62) :
    Capsule.withPayload (enc Generated.CAPSULE_CLOSE_WEBTRANSPORT_SESSION ++ enc body.length ++ body) = some body := by
  simp only [Capsule.withPayload, List.append_assoc]
  rw [dec_enc _ (by decide)]
  simp only [ne_eq, not_true_eq_false, if_false]
  rw [dec_enc _ h]
  simp

/-- … and `with_capsule` reads code and reason back from it -/
theorem closeSession_body (code : Nat) (reason : Bytes) (hc : code < 2^32) (hr : reason.length ≤ 1024)
    (hu : Utf8.valid reason = true) : Capsule.closeSession (beBytes code 4 ++ reason) = .ok (code, reason) := by
  have h4 := beBytes_length code 4
  have hcode : Capsule.be32 (beBytes code 4 ++ reason) = code := by
    rw [Capsule.be32, List.take_left' h4, beVal_beBytes]
    exact Nat.mod_eq_of_lt hc
  unfold Capsule.closeSession
  rw [if_neg (by rw [body_length]; simp only [Generated.CAPSULE_CODE_LEN, Generated.CAPSULE_MAX_REASON_LEN]; omega)]
  simp only [List.drop_left' h4, hu, if_true, hcode]

/-- **Close capsule**: for every 32-bit code and every UTF-8 reason of at most 1024 bytes, the
session ends as an application close carrying exactly that code and those reason bytes,
whatever follows on the stream and however the stream ends afterwards. -/
theorem capsule_reported_exactly (code : Nat) (reason rest : Bytes) (t : Tail) (hc : code < 2^32)
    (hr : reason.length ≤ 1024) (hu : Utf8.valid reason = true) :
    Worker.connectRun (Frame.write ⟨.data, Capsule.encodeClose code reason, none⟩ ++ rest) t
      = some (.appClosed code reason) := by
  have hlen : (Capsule.encodeClose code reason).length ≤ Frame.maxParsePayload := by
    rw [encodeClose_eq, List.length_append, List.length_append, body_length, enc_length, enc_length]
    have := size_le Generated.CAPSULE_CLOSE_WEBTRANSPORT_SESSION
    have := size_le (4 + reason.length)
    have : Frame.maxParsePayload = 4096 := rfl
    omega
  rw [Worker.connectRun_data _ _ _ hlen, encodeClose_eq, withPayload_close _ (by rw [body_length]; omega)]
  simp only [closeSession_body code reason hc hr hu]

/-- … also behind any number of ignorable elements (unknown frames, oversize GREASE frames) -/
theorem capsule_reported_exactly_after_skipped (es : List Bytes) (code : Nat) (reason rest : Bytes) (t : Tail)
    (hes : ∀ e ∈ es, Props.C13.Skipped e) (hc : code < 2^32) (hr : reason.length ≤ 1024)
    (hu : Utf8.valid reason = true) :
    Worker.connectRun (es.flatten ++ (Frame.write ⟨.data, Capsule.encodeClose code reason, none⟩ ++ rest)) t
      = some (.appClosed code reason) := by
  rw [Props.C13.insertions_invisible (Worker.connectRun · t)
    (fun e rest h => Props.C13.session_stream_ignores_skipped e rest t h) es _ hes]
  exact capsule_reported_exactly code reason rest t hc hr hu

/-- **Clean finish**: FIN with nothing (more) on the stream is an application close with code 0
and an empty reason. -/
theorem clean_fin_is_zero_empty : Worker.connectRun [] .fin = some (.appClosed 0 []) :=
  Worker.connectRun_needMore rfl .fin

/-- **Abrupt termination** of the request stream is a protocol failure, never an application
close: RESET, and FIN inside a frame. -/
theorem abrupt_is_protocol_error :
    Worker.connectRun [] .reset = some (.proto .closedCriticalStream) ∧
    Worker.connectRun [0x00] .fin = some (.proto .frame) ∧
    Worker.connectRun [0x00] .reset = some (.proto .closedCriticalStream) :=
  ⟨Worker.connectRun_needMore rfl .reset, Worker.connectRun_needMore rfl .fin, Worker.connectRun_needMore rfl .reset⟩

/-- **Malformed capsule**: a close capsule shorter than the 4-byte code, with a reason over
1024 bytes, or with a reason that is not UTF-8 is a protocol error — for every payload. -/
theorem malformed_capsule_never_app_close (p : Bytes)
    (h : p.length < 4 ∨ p.length > 4 + 1024 ∨ Utf8.valid (p.drop 4) = false) :
    Capsule.closeSession p = .error .datagram := by
  unfold Capsule.closeSession
  simp only [Generated.CAPSULE_CODE_LEN, Generated.CAPSULE_MAX_REASON_LEN]
  rcases h with h | h | h
  · simp [h]
  · simp [h]
  · split
    · rfl
    · simp [h]

/-- and conversely an application close is only ever produced with a code below 2^32 and a
UTF-8 reason of at most 1024 bytes -/
theorem app_close_only_from_wellformed (p : Bytes) (code : Nat) (reason : Bytes)
    (h : Capsule.closeSession p = .ok (code, reason)) :
    code < 2^32 ∧ reason.length ≤ 1024 ∧ Utf8.valid reason = true ∧ reason = p.drop 4 := by
  unfold Capsule.closeSession at h
  simp only [Generated.CAPSULE_CODE_LEN, Generated.CAPSULE_MAX_REASON_LEN] at h
  split at h
  · cases h
  · rename_i hl
    split at h
    · rename_i hu
      simp only [Except.ok.injEq, Prod.mk.injEq] at h
      obtain ⟨hc, hr⟩ := h
      subst hr
      refine ⟨?_, ?_, hu, rfl⟩
      · have := beVal_lt (p.take 4)
        rwa [List.length_take, Nat.min_eq_left (by omega), ← Capsule.be32, hc] at this
      · simp only [List.length_drop]; omega
    · cases h

/-- **QUIC application close**: every 62-bit code and all reason bytes are carried unchanged to
the application, both when quinn reports it directly (`Connection::closed`) and when a waiting
call learns that the driver is gone (`NotConnected` → `close_reason()`). -/
theorem quic_close_identity (code : Nat) (reason : Bytes) :
    ConnError.ofQuinn (.applicationClosed code reason) = .appClosed code reason ∧
    ConnError.withDriverError .notConnected (some (.applicationClosed code reason)) = .appClosed code reason ∧
    ConnError.withDriverError (.appClosed code reason) none = .appClosed code reason :=
  ⟨rfl, rfl, rfl⟩

/-- a protocol failure is never reported as an application close -/
theorem proto_never_app_close (e : H3Err) (cr : Option QuinnClose) (c : Nat) (r : Bytes) :
    ConnError.withDriverError (.proto e) cr ≠ .appClosed c r := by
  simp [ConnError.withDriverError]

/-! ### non-vacuity -/
example : Utf8.valid [0x62, 0x79, 0x65] = true := by decide
example : Capsule.encodeClose 0x01020304 [0x62, 0x79, 0x65] = [0x68, 0x43, 7, 1, 2, 3, 4, 0x62, 0x79, 0x65] := by decide

end Props.C04
