/-
C10 — Certificate-hash pinning accepts exactly the pinned, short-lived P-256 leaf.
-/
import WtVerif.Tls

namespace Props.C10
open Tls

/-- one check of the chain: it is passed, and what follows accepts -/
theorem check_then_ok {p : Prop} [Decidable p] {e : VerifyErr} {r : Except VerifyErr Unit} :
    (if p then .error e else r) = .ok () ↔ ¬p ∧ r = .ok () := by
  split <;> simp [*]

theorem last_check_ok {p : Prop} [Decidable p] {e : VerifyErr} :
    (if p then .ok () else .error e : Except VerifyErr Unit) = .ok () ↔ p := by
  split <;> simp [*]

/-- **Decision logic stated outright**: for every hash set, every instant and every
certificate, the verifier accepts iff the DER parses, the current time lies within the
validity period (both ends inclusive), the period is at most 14 days, the key is ECDSA on
P-256, and the SHA-256 of the certificate is one of the pinned hashes. -/
theorem pinned_accept_iff (hashes : List Bytes) (now : Int) (c : CertView) :
    verify hashes now c = .ok () ↔
      c.derOk = true ∧ c.notBefore ≤ now ∧ now ≤ c.notAfter ∧ c.notAfter - c.notBefore ≤ 14 * 86400 ∧
      c.keyIsEc = true ∧ c.curveIsP256 = true ∧ c.sha256 ∈ hashes := by
  unfold verify
  -- each `if` of the chain is one conjunct
  simp only [check_then_ok, last_check_ok, show maxValiditySecs = 14 * 86400 from rfl, Bool.not_eq_true',
    Bool.not_eq_false, Int.not_lt, gt_iff_lt, List.contains_iff_mem]

/-- no other input can make a certificate failing one condition acceptable: acceptance depends
on nothing but the seven facts above (server name, intermediates, OCSP response are ignored
and therefore cannot help) -/
theorem failing_one_condition_is_refused (hashes : List Bytes) (now : Int) (c : CertView)
    (h : c.derOk = false ∨ now < c.notBefore ∨ c.notAfter < now ∨ 14 * 86400 < c.notAfter - c.notBefore ∨
         c.keyIsEc = false ∨ c.curveIsP256 = false ∨ c.sha256 ∉ hashes) :
    ∃ e, verify hashes now c = .error e := by
  cases hv : verify hashes now c with
  | error e => exact ⟨e, rfl⟩
  | ok u =>
    obtain ⟨hd, _, _, _, hk, hc, hm⟩ := (pinned_accept_iff hashes now c).1 hv
    simp only [hd, hk, hc, hm, not_true, Bool.true_eq_false, false_or, or_false] at h
    omega

/-- an empty pin set accepts nothing -/
theorem empty_pin_set_refuses_all (now : Int) (c : CertView) : ∃ e, verify [] now c = .error e :=
  failing_one_condition_is_refused [] now c (by simp)

/-- the limit is 14 days -/
theorem max_validity_is_14_days : maxValiditySecs = 1209600 := by decide

/-- **Trust-policy wiring**: only the two explicit opt-outs install a custom verifier; the
default policy keeps the standard WebPKI verifier over the native root store (so a certificate
that does not chain to a trusted root is refused by rustls — assumed), and hash pinning never
falls back to any root. -/
theorem policy_wiring :
    wiring .nativeCerts = (.native, .webpkiDefault) ∧ wiring .serverCertificateHashes = (.empty, .hashPinning) ∧
    wiring .noCertValidation = (.empty, .noVerification) := ⟨rfl, rfl, rfl⟩

/-- a default self-signed identity (14 days from now) is accepted by a pin on its own hash at
every instant of its validity, and one valid for 15 days never is -/
theorem default_identity_accepted_by_own_pin (notBefore now : Int) (sha : Bytes)
    (hnow : notBefore ≤ now ∧ now ≤ selfSignedNotAfter notBefore Generated.TLS_DEFAULT_VALIDITY_DAYS) :
    verify [sha] now ⟨true, notBefore, selfSignedNotAfter notBefore Generated.TLS_DEFAULT_VALIDITY_DAYS, true, true, sha⟩
      = .ok () := by
  rw [pinned_accept_iff]
  simp only [selfSignedNotAfter, Generated.TLS_DEFAULT_VALIDITY_DAYS] at hnow ⊢
  simp
  omega

/-! ### non-vacuity, including the zero-length validity the pinned code refused -/
example : verify [[1]] 100 ⟨true, 100, 100, true, true, [1]⟩ = .ok () := by decide
example : verify [[1]] 100 ⟨true, 0, 1209601, true, true, [1]⟩ = .error .unknownIssuer := by decide
example : verify [[1]] 100 ⟨true, 0, 1209600, true, false, [1]⟩ = .error .unknownIssuer := by decide

end Props.C10
