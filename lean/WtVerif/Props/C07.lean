/-
C07 — Streams are independent: a stalled stream never blocks the others.

The hand-off pipeline of one stream kind (`Driver/Handoff.lean`) under every schedule of peer
opens, worker accepts, preamble tasks finishing or failing, application accepts and cancelled
accept calls, with any set of streams stalled inside their preamble:

* `C07_full` — every fair completion terminates (each internal step decreases `work`) in a state
  where nothing internal can happen, and in such a state no healthy stream is left undelivered:
  a task that waits for preamble bytes holds no queue slot (`source_takes_slot_after_preamble`,
  a structural fact the translator extracts from `accept_uni` / `accept_bi` on every run).
* `reserve_first_violates_*` — why that structural fact matters: with the slot reserved before
  the preamble is read (the pinned tree before `fix:` D6) one stalled bidirectional stream, or
  four stalled unidirectional ones, block every later stream of the kind.
* Streams stalled AFTER their preamble (complete preamble then silence, accepted but unread) go
  through the pipeline like healthy ones and hold nothing (`accepted_streams_hold_nothing`).
  The two kinds, datagrams and the session stream use disjoint queues and select branches.
* `C07_unasked_datagrams` — the worker's `select!` loop itself (`Driver/WorkerLoop.lean`): no
  handler body awaits anything (`source_worker_handlers_never_await`, extracted on every run), so
  datagrams the application never asks for — any number of them — leave the datagram branch
  pending and nothing else: every stream in quinn's backlog is accepted by the loop and the end
  of the session stream is processed. `await_in_handler_violates`: with an awaited `send` in the
  datagram handler two unread datagrams park the loop for good.
-/
import WtVerif.Props.C08
import WtVerif.Driver.WorkerLoop

namespace Props.C07
open Handoff

/-- streams the application has neither got nor lost to a peer reset -/
def pendingHealthy (s : St) : List Nat :=
  (s.backlog ++ s.tasks ++ s.queue).filter (fun id => !s.stalled.contains id)

/-- **The structure the proof rests on**, read from the current source: neither `accept_uni`
nor `accept_bi` reserves a queue slot before the preamble task is spawned, and both queues
have room for at least one stream. -/
theorem source_takes_slot_after_preamble :
    Generated.HANDOFF_RESERVE_FIRST_UNI = false ∧ Generated.HANDOFF_RESERVE_FIRST_BI = false ∧
    0 < Generated.CAP_READY_UNI_WT ∧ 0 < Generated.CAP_READY_BI_WT := by decide

/-! what the three guards of `drain` say -/

theorem canRecv_iff (s : St) : canRecv s = true ↔ s.queue ≠ [] := by simp [canRecv]

theorem canAccept_iff (s : St) : canAccept s = true ↔
    s.backlog ≠ [] ∧ (s.reserveFirst = false ∨ s.tasks.length + s.queue.length < s.cap) := by
  simp [canAccept]

theorem canFinish_iff (s : St) : canFinish s = true ↔
    (∃ id ∈ s.tasks, id ∉ s.stalled) ∧ (s.reserveFirst = true ∨ s.queue.length < s.cap) := by
  simp [canFinish]

/-- **Nothing left behind**: when nothing internal can happen any more, every healthy stream
has been delivered — whatever number of streams is stalled inside its preamble. -/
theorem quiescent_all_delivered (s : St) (hrf : s.reserveFirst = false) (hcap : 0 < s.cap)
    (hq : Quiescent s) : pendingHealthy s = [] := by
  obtain ⟨ha, hf, hr⟩ := hq
  rw [← Bool.not_eq_true, canAccept_iff] at ha
  rw [← Bool.not_eq_true, canFinish_iff] at hf
  rw [← Bool.not_eq_true, canRecv_iff] at hr
  have hqueue : s.queue = [] := Decidable.not_not.1 hr
  have hbl : s.backlog = [] := Decidable.not_not.1 fun h => ha ⟨h, .inl hrf⟩
  -- the empty queue has room, so a task that is left cannot be healthy
  have hall : ∀ id ∈ s.tasks, id ∈ s.stalled := fun id hid =>
    Decidable.not_not.1 fun hn => hf ⟨⟨id, hid, hn⟩, .inr (by rw [hqueue]; exact hcap)⟩
  simpa [pendingHealthy, hbl, hqueue] using hall

/-- every internal action that changes anything strictly decreases the work: fair
completions terminate -/
theorem internal_steps_decrease (s : St) :
    (canRecv s = true → work (step s .appRecv) < work s) ∧
    (canAccept s = true → work (step s .workerAccept) < work s) ∧
    (∀ id, id ∈ s.tasks → id ∉ s.stalled → (s.reserveFirst = true ∨ s.queue.length < s.cap) →
        work (step s (.taskDone id)) < work s) := by
  refine ⟨fun h => ?_, fun h => ?_, fun id hid hns hroom => ?_⟩
  · obtain ⟨a, t, hq⟩ := List.exists_cons_of_ne_nil ((canRecv_iff s).1 h)
    simp only [step, hq, work, List.length_cons]; omega
  · obtain ⟨hb, hroom⟩ := (canAccept_iff s).1 h
    obtain ⟨a, t, hb⟩ := List.exists_cons_of_ne_nil hb
    -- the accepted stream weighs 3 in the backlog and at most 2 as a task
    simp only [step, hb, hroom, if_true, work, List.length_cons, List.filter_cons]
    split
    · simp only [List.length_cons]; omega
    · omega
  · have hmem : id ∈ s.tasks.filter (fun id => !s.stalled.contains id) :=
      List.mem_filter.2 ⟨hid, by simpa using hns⟩
    have := List.length_erase_of_mem hmem; have := List.length_pos_of_mem hmem
    simp only [step, hid, hns, hroom, not_false_eq_true, and_self, if_true, work, List.length_append,
      List.length_singleton, ← List.erase_filter]
    omega

/-- the fair completion is one of the schedules: what holds after every schedule holds after it -/
theorem drain_eq_run : ∀ (fuel : Nat) (s : St), ∃ as, drain fuel s = run s as
  | 0, s => ⟨[], rfl⟩
  | fuel + 1, s => by
    have next (a : Act) : ∃ as, drain fuel (step s a) = run s as :=
      let ⟨as, h⟩ := drain_eq_run fuel (step s a); ⟨a :: as, h⟩
    unfold drain
    split
    · exact next _
    split
    · split
      · exact next _
      · exact ⟨[], rfl⟩
    split
    · exact next _
    · exact ⟨[], rfl⟩

theorem drain_params (fuel : Nat) (s : St) :
    (drain fuel s).cap = s.cap ∧ (drain fuel s).stalled = s.stalled ∧
    (drain fuel s).reserveFirst = s.reserveFirst ∧ (drain fuel s).timers = s.timers := by
  obtain ⟨as, h⟩ := drain_eq_run fuel s
  rw [h]; exact C08.run_params s as

/-- the fair completion `drain` ends, within `work s` steps, in a state where nothing internal
can happen -/
theorem drain_quiescent : ∀ (fuel : Nat) (s : St), work s ≤ fuel → Quiescent (drain fuel s) := by
  intro fuel
  induction fuel with
  | zero =>
    intro s hw
    obtain ⟨d1, d2, d3⟩ := internal_steps_decrease s
    -- an enabled action would lower `work s = 0`
    have low {t : St} (h : work t < work s) : False := by omega
    refine ⟨Bool.eq_false_iff.2 fun h => low (d2 h), Bool.eq_false_iff.2 fun h => ?_,
      Bool.eq_false_iff.2 fun h => low (d1 h)⟩
    obtain ⟨⟨id, hid, hns⟩, hroom⟩ := (canFinish_iff s).1 h
    exact low (d3 id hid hns hroom)
  | succ n ih =>
    intro s hw
    obtain ⟨d1, d2, d3⟩ := internal_steps_decrease s
    have low {t : St} (h : work t < work s) : work t ≤ n := by omega
    unfold drain
    split
    · rename_i hr; exact ih _ (low (d1 hr))
    rename_i hr
    split
    · rename_i hf
      obtain ⟨⟨id, hid, hns⟩, hroom⟩ := (canFinish_iff s).1 hf
      split
      · rename_i id hfind
        exact ih _ (low (d3 id (List.mem_of_find?_eq_some hfind) (by simpa using List.find?_some hfind) hroom))
      · rename_i hfind
        exact absurd (List.find?_eq_none.1 hfind id hid) (by simpa using hns)
    rename_i hf
    split
    · rename_i ha; exact ih _ (low (d2 ha))
    · rename_i ha; exact ⟨by simpa using ha, by simpa using hf, by simpa using hr⟩

/-- from any state whatever of a pipeline that takes the queue slot after the preamble, the fair
completion ends with every healthy stream delivered -/
theorem drain_delivers (s : St) (hrf : s.reserveFirst = false) (hcap : 0 < s.cap) :
    Quiescent (drain (work s) s) ∧ pendingHealthy (drain (work s) s) = [] := by
  have hq := drain_quiescent (work s) s (Nat.le_refl _)
  obtain ⟨c, _, r, _⟩ := drain_params (work s) s
  exact ⟨hq, quiescent_all_delivered _ (r.trans hrf) (c ▸ hcap) hq⟩

/-- **C07 for the hand-off pipeline**: for every capacity of at least one, every set of
streams stalled inside their preamble (any number `k ≥ 1`, any stall position inside the
preamble), every schedule of opens, accepts, task completions, peer resets and cancelled accept
calls, the fair completion terminates and no healthy stream — opened before or after the stalled
ones — is left undelivered to an application that keeps accepting. -/
theorem C07_full (cap : Nat) (hcap : 0 < cap) (stalled : List Nat) (as : List Act) :
    let s := run (init cap stalled false) as
    Quiescent (drain (work s) s) ∧ pendingHealthy (drain (work s) s) = [] := by
  intro s
  obtain ⟨c, _, r, _⟩ := C08.run_params (init cap stalled false) as
  exact drain_delivers s r (c ▸ hcap)

/-- … instantiated with what the translator read from the source, for both stream kinds -/
theorem C07_unidirectional (stalled : List Nat) (as : List Act) :
    let s := run (init Generated.CAP_READY_UNI_WT stalled Generated.HANDOFF_RESERVE_FIRST_UNI) as
    pendingHealthy (drain (work s) s) = [] := by
  have h := source_takes_slot_after_preamble
  rw [h.1]
  exact (C07_full _ h.2.2.1 stalled as).2

theorem C07_bidirectional (stalled : List Nat) (as : List Act) :
    let s := run (init Generated.CAP_READY_BI_WT stalled Generated.HANDOFF_RESERVE_FIRST_BI) as
    pendingHealthy (drain (work s) s) = [] := by
  have h := source_takes_slot_after_preamble
  rw [h.2.1]
  exact (C07_full _ h.2.2.2 stalled as).2

/-- streams stalled after their preamble (complete preamble then silence, or accepted and never
read) go through the pipeline like healthy ones: they are not in `stalled`, their task
finishes, they hold no slot once accepted -/
theorem accepted_streams_hold_nothing (s : St) (id : Nat) (rest : List Nat) (hq : s.queue = id :: rest) :
    (step s .appRecv).tasks.length + (step s .appRecv).queue.length + 1 = s.tasks.length + s.queue.length := by
  simp [step, hq]; omega

/-! ### why the structural fact matters: the design that reserves first violates the property -/

/-- bidirectional streams (capacity 1), slot reserved first: the peer opens a stream and sends
one byte of the two-byte signal, then opens a healthy stream — never delivered -/
theorem reserve_first_violates_bidi :
    pendingHealthy (drain 100 (run (init 1 [0] true) [.peerOpen 0, .peerOpen 4])) = [4] := by decide

/-- unidirectional streams (capacity 4), slot reserved first: four stalled preambles block the fifth -/
theorem reserve_first_violates_uni :
    pendingHealthy (drain 100 (run (init 4 [2, 6, 10, 14] true)
      [.peerOpen 2, .peerOpen 6, .peerOpen 10, .peerOpen 14, .peerOpen 18])) = [18] := by decide

/-! ### non-vacuity: the same scenarios on the current structure deliver the healthy stream -/
example : (drain 100 (run (init 1 [0] false) [.peerOpen 0, .peerOpen 4])).delivered = [4] := by decide
example : (drain 100 (run (init 4 [2, 6, 10, 14] false)
    [.peerOpen 2, .peerOpen 6, .peerOpen 10, .peerOpen 14, .peerOpen 18])).delivered = [18] := by decide

end Props.C07

/-! ### the worker loop: datagrams nobody asks for -/

namespace Props.C07.Loop
open WorkerLoop

/-- **Structure read from the current source**: no handler body of `run_impl`'s `select!` contains
an `.await`, `accept_datagram` holds its queue slot before it takes a datagram out of quinn, and
the datagram queue has room for at least one datagram. -/
theorem source_worker_handlers_never_await :
    Generated.WORKER_HANDLERS_AWAIT_FREE = true ∧ Generated.DGRAM_SLOT_BEFORE_READ = true ∧
    0 < Generated.CAP_READY_DATAGRAMS := by decide

/-- `parked` is set only where the datagram handler awaits `send`, and an await-free loop has
no such handler -/
theorem step_not_parked (s : St) (a : WorkerLoop.Act) (haf : s.awaitFree = true) (hp : s.parked = none) :
    (step s a).awaitFree = true ∧ (step s a).parked = none := by
  cases a
  all_goals simp only [step, hp, Option.isSome_none, Bool.false_eq_true, if_false]
  all_goals (repeat' split)
  all_goals simp_all

/-- an await-free loop is never parked, whatever the peer and the application do -/
theorem never_parked (as : List WorkerLoop.Act) (s : St) (haf : s.awaitFree = true) (hp : s.parked = none) :
    (run s as).awaitFree = true ∧ (run s as).parked = none :=
  as.foldlRecOn step (motive := fun t => t.awaitFree = true ∧ t.parked = none) ⟨haf, hp⟩
    fun t ht a _ => step_not_parked t a ht.1 ht.2

/-- a loop that is not parked accepts its whole stream backlog, in order -/
theorem accepts_backlog (n : Nat) (s : St) (hp : s.parked = none) (hn : s.strBacklog.length = n) :
    let t := run s (List.replicate n .loopStream)
    t.strBacklog = [] ∧ t.accepted = s.accepted ++ s.strBacklog ∧ t.parked = none ∧ t.closeSent = s.closeSent := by
  induction n generalizing s with
  | zero => simp [run, List.eq_nil_of_length_eq_zero hn, hp]
  | succ n ih =>
    obtain ⟨id, rest, hb⟩ := List.exists_cons_of_length_eq_add_one hn
    have hstep : step s .loopStream = { s with strBacklog := rest, accepted := s.accepted ++ [id] } := by
      simp [step, hp, hb]
    have := ih (step s .loopStream) (by rw [hstep]; exact hp) (by rw [hstep]; simpa [hb] using hn)
    simpa [run, List.replicate_succ, hstep, hb] using this

/-- a loop that is not parked serves all its streams and then the close -/
theorem serveStreams_unparked (s : St) (hp : s.parked = none) :
    (serveStreams s).strBacklog = [] ∧ (serveStreams s).accepted = s.accepted ++ s.strBacklog ∧
    (s.closeSent = true → (serveStreams s).closeSeen = true) := by
  obtain ⟨h1, h2, h3, h4⟩ := accepts_backlog s.strBacklog.length s hp rfl
  simp only [serveStreams]
  generalize run s (List.replicate s.strBacklog.length .loopStream) = t at h1 h2 h3 h4
  -- not parked, the control branch sets `closeSeen` after a close and does nothing else
  have hstep : step t .loopControl = if t.closeSent then { t with closeSeen := true } else t := by
    simp [step, h3]
  rw [hstep, h4]
  refine ⟨?_, ?_, fun hc => by rw [if_pos hc]⟩
  · split <;> exact h1
  · split <;> exact h2

/-- **C07 for the worker loop**: under every schedule of datagrams arriving, streams being
opened, the session being closed, the loop's branches firing and the application reading — or
never reading — datagrams, the loop goes on to accept every stream quinn holds and to process
the end of the session stream. -/
theorem C07_unasked_datagrams (cap : Nat) (as : List WorkerLoop.Act) :
    let s := run (init cap true) as
    (serveStreams s).strBacklog = [] ∧ (serveStreams s).accepted = s.accepted ++ s.strBacklog ∧
    (s.closeSent = true → (serveStreams s).closeSeen = true) :=
  serveStreams_unparked _ (never_parked as (init cap true) rfl rfl).2

/-- … with what the translator read from the source -/
theorem C07_worker_loop (as : List WorkerLoop.Act) :
    let s := run (init Generated.CAP_READY_DATAGRAMS Generated.WORKER_HANDLERS_AWAIT_FREE) as
    (serveStreams s).strBacklog = [] ∧ (s.closeSent = true → (serveStreams s).closeSeen = true) := by
  have h := source_worker_handlers_never_await
  rw [h.1]
  exact ⟨(C07_unasked_datagrams _ as).1, (C07_unasked_datagrams _ as).2.2⟩

/-- a parked loop does nothing until the application reads a datagram -/
theorem parked_does_nothing (s : St) (a : WorkerLoop.Act) (hp : s.parked.isSome = true) (ha : a ≠ .appReadDgram) :
    (step s a).parked = s.parked ∧ (step s a).accepted = s.accepted ∧ (step s a).closeSeen = s.closeSeen := by
  cases a <;> simp_all [step]

/-- **why the structural fact matters**: with the awaited `send` in the handler (queue capacity
1) two datagrams nobody asks for park the loop — the stream opened afterwards is never accepted
and the close never processed -/
theorem await_in_handler_violates :
    (unreadDatagramsRun 1 false 2 [7]).accepted = [] ∧ (unreadDatagramsRun 1 false 2 [7]).closeSeen = false ∧
    (unreadDatagramsRun 1 false 2 [7]).parked = some 1 := by decide

/-! non-vacuity: the same schedule on the current structure; one unread datagram is harmless in both -/
example : (unreadDatagramsRun 1 true 2 [7]).accepted = [7] ∧ (unreadDatagramsRun 1 true 2 [7]).closeSeen = true := by decide
example : (unreadDatagramsRun 1 false 1 [7]).accepted = [7] := by decide

end Props.C07.Loop
