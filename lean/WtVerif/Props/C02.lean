/-
C02 — Session setup carries the request faithfully and mirrors the decision.

Proved on the header maps both sides compute and through the wire form between them (sorted
map → QPACK static / name-reference / literal lines, Huffman or raw strings → decoded map):
the request the server admits is the one the client built from the URL parts and the extra
fields; the client's verdict is a function of the status alone; both sides name the session by
the CONNECT stream's id.
-/
import WtVerif.Props.C18
import WtVerif.Props.C17
import WtVerif.Lemmas.Wire
import WtVerif.Lemmas.Connect

namespace Props.C02
open Session

/-- inserting a non-reserved field keeps a request admissible: none of the five pseudo-header
fields is touched -/
theorem insert_extra_keeps_request (h : Headers) (k v : Bytes) (h' : Headers)
    (hadm : ∃ r, requestTryFrom h = .ok r) (hins : requestInsert h k v = some h') :
    ∃ r, requestTryFrom h' = .ok r := by
  have hres := (Props.C18.reserved_never_overridden h k v).2 h' hins
  rw [Props.C18.admitted_iff] at hadm ⊢
  simpa only [hres, List.mem_cons, true_or, or_true] using hadm

/-- **The server admits exactly what the client built**: for every authority, path and query
(as the URL parser reports them), the request built by `SessionRequest::new` is admitted
unchanged, with authority and path-with-query exact. -/
theorem request_seen_exactly (authority path : Bytes) (query : Option Bytes) :
    requestTryFrom (requestNew authority path query) = .ok (requestNew authority path query) := by
  have h := Props.C18.authority_path_exact authority path query
  exact (Props.C18.requestTryFrom_ok_iff _ _).2
    ⟨rfl, h.2.2.1, h.2.2.2.1, h.2.2.2.2, by rw [h.1]; rfl, by rw [h.2.1]; rfl⟩

/-- **The request survives the wire**: for every header map of Rust strings the client may
hold (distinct names by construction of a map) that is an admissible request, the server's
worker, given the HEADERS payload the client generated, hands the application a session
request holding the same value under every name — authority, path, every extra field. -/
theorem request_survives_wire (h : Headers) (hw : Headers.Wellformed h)
    (hadm : ∃ r, requestTryFrom h = .ok r) :
    ∃ h', admitRequest (Headers.encode h) = .session h' ∧ h'.Perm h ∧
      ∀ k, Headers.get h' k = Headers.get h k := by
  obtain ⟨h', hwire, hperm, hg⟩ := Headers.wire_roundtrip h hw.1 hw.2
  obtain ⟨r, hr⟩ : ∃ r, requestTryFrom h' = .ok r := by
    rw [Props.C18.admitted_iff] at hadm ⊢
    simpa only [hg] using hadm
  obtain rfl := Props.C18.admitted_unchanged h' r hr
  exact ⟨r, by unfold admitRequest; rw [hwire]; simp only [hr], hperm, hg⟩

/-- **The response survives the wire**: the client's verdict on the payload the server
generated from any response map is the verdict of that map's `:status` — established iff 2xx,
rejected iff any other valid status — whatever other fields the map holds. -/
theorem response_survives_wire (h : Headers) (hw : Headers.Wellformed h)
    (c : Nat) (hc : responseTryFrom h = .ok c) :
    clientVerdict (Headers.encode h) = if Ids.isSuccessful c then .established else .rejected := by
  obtain ⟨h', hwire, _, hg⟩ := Headers.wire_roundtrip h hw.1 hw.2
  have : responseTryFrom h' = .ok c := by
    unfold responseTryFrom at hc ⊢
    rw [hg]; exact hc
  unfold clientVerdict
  rw [hwire]
  simp only [this]

/-- **C02, request half, end to end**: for every authority, path and query the URL parser
reports and every list of extra fields the application adds (Rust strings; none of them
reserved, so `connect` does not refuse), the request `connect` builds, once encoded into the
HEADERS payload (sorted map, QPACK, Huffman) and decoded and admitted by the server's worker,
reaches the server application as a session request holding the same value under every name. -/
theorem connect_request_reaches_server (authority path : Bytes) (query : Option Bytes)
    (extras : List Qpack.Field) (h : Headers)
    (hbuild : insertAll (requestNew authority path query) extras = some h)
    (ha : Utf8.valid authority = true ∧ authority.length < 2^64)
    (hp : Utf8.valid (match query with | some q => path ++ [63] ++ q | none => path) = true ∧
          (match query with | some q => path ++ [63] ++ q | none => path).length < 2^64)
    (hx : ∀ f ∈ extras, TextPair f.1 f.2) :
    ∃ h', admitRequest (Headers.encode h) = .session h' ∧ ∀ k, Headers.get h' k = Headers.get h k := by
  have hnew : Headers.Wellformed (requestNew authority path query) := by
    unfold requestNew; exact requestNew_wellformed ha hp
  have hadm : ∃ r, requestTryFrom h = .ok r :=
    insertAll_induction (fun g g' f _ hg hins => insert_extra_keeps_request g f.1 f.2 g' hg hins) hbuild
      ⟨_, request_seen_exactly authority path query⟩
  obtain ⟨h', hs, _, hg⟩ := request_survives_wire h (insertAll_wellformed hbuild hnew hx) hadm
  exact ⟨h', hs, hg⟩

/-- the characters of decimal text are digits -/
theorem toDigits_le_nine {c : Char} {n : Nat} (hc : c ∈ Nat.toDigits 10 n) : c.toNat ≤ 57 :=
  (Char.isDigit_iff_toNat.1 (Nat.isDigit_of_mem_toDigits (by decide) (by decide) hc)).2

/-- … so its bytes, read as characters, are the text itself -/
theorem decimal_chars (n : Nat) : (decimal n).map (fun b => Char.ofNat b.toNat) = Nat.toDigits 10 n := by
  rw [decimal, List.map_map]
  refine (List.map_congr_left fun c hc => ?_).trans (List.map_id _)
  have := toDigits_le_nine hc
  simp only [Function.comp, UInt8.toNat_ofNat', id]
  rw [Nat.mod_eq_of_lt (by omega), Char.ofNat_toNat]

/-- `u16::to_string` then `str::parse::<u16>` gives the number back -/
theorem parseU16_toDigits (n : Nat) (h : n ≤ 65535) : Ids.parseU16 (Nat.toDigits 10 n) = some n := by
  have hd : ∀ c ∈ Nat.toDigits 10 n, c.isDigit = true :=
    fun c hc => Nat.isDigit_of_mem_toDigits (by decide) (by decide) hc
  have hv : (Nat.toDigits 10 n).foldl (fun acc c => acc * 10 + (c.toNat - '0'.toNat)) 0 = n := by
    simpa only [Nat.ofDigitChars, Nat.mul_comm 10] using @Nat.ofDigitChars_ten_toDigits n
  unfold Ids.parseU16
  split
  · rename_i r hs
    exact absurd (hd '+' (by rw [hs]; simp)) (by decide)
  · simp only [List.isEmpty_iff, Nat.toDigits_ne_nil, List.all_eq_true.2 hd, hv, h, if_true, if_false]

/-- decimal text of a status code parses back to the code -/
theorem status_text_roundtrip (st : Nat) (hst : 100 ≤ st ∧ st ≤ 599) :
    Ids.statusFromStr ((decimal st).map (fun b => Char.ofNat b.toNat)) = some st := by
  rw [decimal_chars, Ids.statusFromStr, parseU16_toDigits st (by omega)]
  exact Props.C18.status_in_range_accepted st hst

/-- **The decision is mirrored, extra response fields never change it**: for every status code
100..599 and every list of extra fields that does not touch `:status`, the client sees
`established` iff the status is 2xx and `rejected` otherwise. -/
theorem decision_mirror (st : Nat) (extras : List Qpack.Field) (hst : 100 ≤ st ∧ st ≤ 599)
    (hex : ∀ f ∈ extras, f.1 ≠ Names.status) :
    responseTryFrom (extras.foldl (fun acc f => Headers.insert acc f.1 f.2) (responseWithStatus st)) = .ok st := by
  have hget : Headers.get (extras.foldl (fun acc f => Headers.insert acc f.1 f.2) (responseWithStatus st))
      Names.status = some (decimal st) :=
    List.foldlRecOn (motive := fun acc => Headers.get acc Names.status = some (decimal st)) extras _
      (by simp [responseWithStatus, Headers.get_cons]) fun acc hacc f hf => by
        rw [Headers.get_insert, if_neg (hex f hf).symm, hacc]
  unfold responseTryFrom
  rw [hget]
  simp [status_text_roundtrip st hst]

theorem valid_of_ascii (s : Bytes) (h : ∀ b ∈ s, b.toNat ≤ 0x7F) : Utf8.valid s = true := by
  induction s with
  | nil => rfl
  | cons b r ih =>
    unfold Utf8.valid
    simp only [h b (by simp), if_true]
    exact ih fun b hb => h b (by simp [hb])

/-- the decimal text of every status code is ASCII digits (valid UTF-8, three bytes) -/
theorem status_text_is_utf8 (st : Nat) (hst : 100 ≤ st ∧ st ≤ 599) :
    Utf8.valid (decimal st) = true ∧ (decimal st).length = 3 := by
  constructor
  · apply valid_of_ascii
    intro b hb
    simp only [decimal, List.mem_map] at hb
    obtain ⟨c, hc, rfl⟩ := hb
    have := toDigits_le_nine hc
    rw [UInt8.toNat_ofNat']
    omega
  · have h3 := (Nat.length_toDigits_le_iff (b := 10) (n := st) (by decide) (by decide : 0 < 3)).2 (by omega)
    have h2 := mt (Nat.length_toDigits_le_iff (b := 10) (n := st) (by decide) (by decide : 0 < 2)).1 (by omega)
    rw [decimal, List.length_map]
    omega

/-- **C02, response half, end to end**: for every status code the server may answer with and
every list of extra response fields (Rust strings, none of them `:status`), the client's verdict
on the HEADERS payload the server generated is `established` iff the status is 2xx and `rejected`
otherwise: the extra fields never change the outcome. -/
theorem server_decision_reaches_client (st : Nat) (extras : List Qpack.Field) (hst : 100 ≤ st ∧ st ≤ 599)
    (hex : ∀ f ∈ extras, f.1 ≠ Names.status) (hx : ∀ f ∈ extras, TextPair f.1 f.2) :
    clientVerdict (Headers.encode (extras.foldl (fun acc f => Headers.insert acc f.1 f.2) (responseWithStatus st)))
      = if Ids.isSuccessful st then .established else .rejected := by
  have hd := status_text_is_utf8 st hst
  have hbase : Headers.Wellformed (responseWithStatus st) :=
    Headers.Wellformed.nil.insert (.of_texts fixed_texts.2.2.2.2.2 ⟨hd.1, by omega⟩)
  exact response_survives_wire _ (hbase.foldl_insert hx) st (decision_mirror st extras hst hex)

/-- … so the verdict is `established` iff the server answered 2xx -/
theorem verdict_iff_2xx (st : Nat) : Ids.isSuccessful st = true ↔ 200 ≤ st ∧ st ≤ 299 :=
  Ids.isSuccessful_iff st

/-- the statuses the server-side API can answer with -/
theorem server_decisions :
    Generated.STATUS_OK = 200 ∧ Generated.STATUS_FORBIDDEN = 403 ∧ Generated.STATUS_NOT_FOUND = 404 ∧
    Generated.STATUS_TOO_MANY_REQUESTS = 429 := by decide

/-- **Both endpoints report the same session id**: it is the id of the CONNECT stream, which is
a valid session id because the client opened it as a bidirectional stream (QUIC numbers those
0, 4, 8, …). -/
theorem session_id_agree (n : Nat) (hn : n < 2^60) :
    Ids.sessionIdTry (4 * n) = some (4 * n) :=
  (Ids.sessionIdTry_some_iff _).2 (by omega)

/-! ### non-vacuity -/

/-- the request `connect("https://a/b?c")` builds meets every hypothesis of `request_survives_wire` -/
example : let h := requestNew [97] [47, 98] (some [99])
    (h.map (·.1)).Nodup ∧ (∃ r, requestTryFrom h = .ok r) ∧
    h.all (fun f => Utf8.valid f.1 && Utf8.valid f.2) = true := by
  refine ⟨by decide, ⟨_, request_seen_exactly _ _ _⟩, by decide⟩

end Props.C02
