/-
C09 — Termination is prompt, total and never misattributed.
-/
import WtVerif.Driver.Result

namespace Props.C09
open Result

/-- no operation changes a value that is set -/
theorem step_keeps_value {c : Cell} {e : DriverError} (h : c.value = some e) (op : CellOp) :
    (c.step op).value = some e := by
  cases op <;> simp only [Cell.step] <;> (repeat' split) <;> simp_all

/-- **Set once**: for every sequence of operations on the shared result, once a value is set
it never changes, and every reader sees that value from then on. -/
theorem set_once (c : Cell) (e : DriverError) (ops : List CellOp) (h : c.value = some e) :
    (ops.foldl Cell.step c).value = some e ∧ (ops.foldl Cell.step c).get = .value e := by
  have hv : (ops.foldl Cell.step c).value = some e :=
    ops.foldlRecOn Cell.step (motive := fun c => c.value = some e) h fun _ hc op _ => step_keeps_value hc op
  exact ⟨hv, by rw [Cell.get, hv]⟩

/-- the first successful `set` wins -/
theorem first_set_wins (c : Cell) (e1 e2 : DriverError) (hs : 0 < c.setters) (hn : c.value = none) :
    ((c.step (.set e1)).step (.set e2)).value = some e1 := by
  have : c.setters ≠ 0 := by omega
  simp [Cell.step, this, hn]

/-- invariant of the worker's last steps: the cell is empty with the worker's setter alive until
`set` stores the error, and the queues close only afterwards, when the worker returns -/
def WInv (s : Sys) : Prop :=
  match s.phase with
  | .running | .decided _ | .quicClosed _ => s.channelsOpen = true ∧ s.cell.value = none ∧ s.cell.setters = 1
  | .resultSet e => s.channelsOpen = true ∧ s.cell.value = some e ∧ s.cell.setters = 1
  | .returned e => s.channelsOpen = false ∧ s.cell.value = some e

theorem winv_step (s : Sys) (a : WStep) (h : WInv s) : WInv (s.step a) := by
  obtain ⟨phase, cell, ch⟩ := s
  -- only two steps touch the cell: `set` finds it empty with a live setter and stores `e`;
  -- dropping the setter keeps the value
  cases a <;> cases phase <;> simp_all [Sys.step, WInv, Cell.step]

theorem winv_run (as : List WStep) : WInv (as.foldl Sys.step Sys.init) :=
  as.foldlRecOn Sys.step (by simp [WInv, Sys.init]) fun s hs a _ => winv_step s a hs

/-- the queues are closed only in the last phase, where the result is stored -/
theorem winv_closed {s : Sys} (h : WInv s) (hc : s.channelsOpen = false) :
    ∃ e, s.phase = .returned e ∧ s.cell.value = some e := by
  obtain ⟨phase, cell, ch⟩ := s
  cases phase <;> simp_all [WInv]

/-- **No missing result, no panic**: in every reachable state of the worker's shutdown, a call
that finds its queue closed finds the result already set — it fails with the stored error, it
never reaches the `panic!("Driver worker panic!")` arm and it does not wait. -/
theorem closed_queue_means_result (as : List WStep) :
    let s := as.foldl Sys.step Sys.init
    s.channelsOpen = false → ∃ e, s.waitingCall = .fails e ∧ s.phase = .returned e := by
  intro s hc
  obtain ⟨e, hp, hv⟩ : ∃ e, s.phase = .returned e ∧ s.cell.value = some e := winv_closed (winv_run as) hc
  exact ⟨e, by simp [Sys.waitingCall, hc, Cell.get, hv], hp⟩

/-- **Prompt and total**: once the worker has decided, four more steps (each without waiting on
anything) close every queue; then every pending and every later waiting call fails at once. -/
theorem four_steps_to_completion (e : DriverError) :
    ((((Sys.init.step (.decide e)).step .next).step .next).step .next).waitingCall = .fails e := rfl

/-- **Never misattributed**: for every cause, both kinds of call report the actual cause, or a
local close where the library itself shut the transport down in response — never another code,
never a different cause. -/
theorem reported_error_allowed (c : Cause) : Allowed c (viaDriver c) ∧ Allowed c (direct c) := by
  -- cause by cause, by computation: the actual cause, or the local close after the library's own shutdown
  cases c <;> refine ⟨?_, ?_⟩ <;> first | exact .inl rfl | exact .inr ⟨rfl, rfl⟩

/-- peer codes and reasons are carried exactly, for every code and reason -/
theorem peer_close_exact (code : Nat) (reason : Bytes) :
    viaDriver (.peerQuicClose code reason) = .appClosed code reason ∧
    direct (.peerQuicClose code reason) = .appClosed code reason ∧
    viaDriver (.peerCapsule code reason) = .appClosed code reason := ⟨rfl, rfl, rfl⟩

theorem close_codes : closeCodeOnWire (.appClosed 7 []) = some 0x100 ∧
    closeCodeOnWire (.proto .frameUnexpected) = some 0x105 ∧ closeCodeOnWire .notConnected = none := by decide

/-- when the application drops all its handles the `driver_result.closed()` branch of the
worker fires, the worker returns `NotConnected`, and with it the last `quinn::Connection`
handle of the library is dropped (quinn then closes the connection: assumed) -/
theorem handles_dropped_stops_worker : (outcome .handlesDropped).1 = .notConnected ∧
    closeCodeOnWire (outcome .handlesDropped).1 = none := by decide

end Props.C09
