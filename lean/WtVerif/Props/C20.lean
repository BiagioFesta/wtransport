/-
C20 — Configuration is honoured (decision tables; the live half is in the e2e correspondence).
-/
import WtVerif.Tls

namespace Props.C20
open Config

/-- **Bind table**: for each of the six presets, the address family, the address and what
happens to IPV6_V6ONLY are the requested ones: V4 presets bind an IPv4 socket (option
untouched), V6 presets an IPv6-only socket, Dual presets an IPv6 socket with v6only cleared. -/
theorem bind_table :
    bindPlan .localV4 = some (.v4, .loopback, .unset) ∧
    bindPlan .localV6 = some (.v6, .loopback, .setTrue) ∧
    bindPlan .localDual = some (.v6, .loopback, .setFalse) ∧
    bindPlan .inAddrAnyV4 = some (.v4, .unspecified, .unset) ∧
    bindPlan .inAddrAnyV6 = some (.v6, .unspecified, .setTrue) ∧
    bindPlan .inAddrAnyDual = some (.v6, .unspecified, .setFalse) := by decide +kernel

/-- explicit addresses: the dual-stack choice maps to the socket option as documented -/
theorem dual_stack_choice : sockopt .osDefault = some .unset ∧ sockopt .deny = some .setTrue ∧
    sockopt .allow = some .setFalse := by decide +kernel

/-- an idle timeout is refused exactly when its milliseconds do not fit a QUIC varint; it is
never silently altered -/
theorem idle_timeout_refused_iff_unrepresentable (ms : Nat) :
    idleTimeoutAccepted ms = true ↔ ms ≤ 2^62 - 1 := by
  unfold idleTimeoutAccepted; simp; omega

/-- ALPN offered and required by every default builder path is `h3` -/
theorem alpn_is_h3 : Generated.WEBTRANSPORT_ALPN = "h3" := rfl

/-- every default TLS configuration the library builds (client and server) offers TLS 1.3 and
nothing else, and exactly one ALPN protocol, the WebTransport one (`alpn_is_h3`) -/
theorem tls13_only_alpn_h3_only :
    Generated.TLS_PROTOCOL_VERSIONS = [["TLS13"], ["TLS13"]] ∧
    Generated.TLS_ALPN_LISTS = [["WEBTRANSPORT_ALPN.to_vec()"], ["WEBTRANSPORT_ALPN.to_vec()"]] := ⟨rfl, rfl⟩

/-- the keep-alive interval and the migration setting reach quinn exactly as requested
(structure of the builder methods, read from config.rs on every run); migration is on by default -/
theorem keep_alive_and_migration_passed_unchanged :
    Generated.KEEP_ALIVE_PASSED_UNCHANGED = true ∧ Generated.MIGRATION_PASSED_UNCHANGED = true ∧
    Generated.MIGRATION_DEFAULT = true := ⟨rfl, rfl, rfl⟩

end Props.C20
