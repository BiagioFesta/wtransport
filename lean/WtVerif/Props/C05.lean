/-
C05 — Control-plane interpretation is independent of segmentation and interleaving.

* Inside one reader future the interpretation is independent of segmentation: Props/C15
  (async = one-shot for every chunking and `Pending` pattern, frames and typestates).
* `C05_full` — the property for the worker's select loop: for EVERY list of pieces, with or
  without another event after each piece, the session stream and the control stream are
  interpreted exactly as the unsegmented bytes. It rests on the structural fact, read from the
  source on every run, that a frame read in progress is stored in the stream holder and not in
  the future the select loop drops (`source_keeps_reads_in_progress`; `fix:` D5).
* `dropping_reads_violates` — why that fact matters: with the read inside `run`'s future (the
  pinned tree) a close capsule cut after three bytes with one other event between the pieces is
  never reported. `tear_free_is_harmless_either_way`: what held even then.
* `C05_session_decision_reported` / `source_decides_without_awaiting`: the runners await nothing
  between a consumed frame and their decision (second structural fact, extracted on every run);
  `awaiting_before_deciding_violates`: otherwise an event right after a complete close capsule
  makes the session look alive for ever.
-/
import WtVerif.Driver.Select
import WtVerif.Lemmas.Worker
import WtVerif.Props.C04

namespace Props.C05
open Select

/-- the full property for a given structure of the readers, for the session stream and the
control stream -/
def FullFor (persist : Bool) : Prop :=
  ∀ (ps : List Piece) (t : Tail),
    sessionOutcome persist ps t = Worker.connectRun (whole ps) t ∧
    controlOutcome persist ps t = Worker.controlRun (whole ps) t none

theorem leftoverOf_suffix : ∀ (fuel : Nat) (bs : Bytes), ∃ c, bs = c ++ leftoverOf fuel bs := by
  intro fuel
  induction fuel with
  | zero => intro bs; exact ⟨[], rfl⟩
  | succ n ih =>
    intro bs
    simp only [leftoverOf]
    cases h : Frame.read bs with
    | frame f rest =>
      obtain ⟨c1, h1⟩ := ih rest
      obtain ⟨c0, h0⟩ := Frame.read_suffix (Or.inl ⟨f, h⟩)
      exact ⟨c0 ++ c1, by rw [List.append_assoc, ← h1, ← h0]⟩
    | unknown rest =>
      obtain ⟨c1, h1⟩ := ih rest
      obtain ⟨c0, h0⟩ := Frame.read_suffix (Or.inr h)
      exact ⟨c0 ++ c1, by rw [List.append_assoc, ← h1, ← h0]⟩
    | needMore => exact ⟨[], rfl⟩
    | invalidSessionId => exact ⟨bs, by simp⟩
    | payloadTooBig => exact ⟨bs, by simp⟩

theorem avail_split (bs : Bytes) :
    bs.take (bs.length - (leftover bs).length) ++ leftover bs = bs := by
  obtain ⟨c, hc⟩ := leftoverOf_suffix (bs.length + 1) bs
  unfold leftover
  have hl : bs.length = c.length + (leftoverOf (bs.length + 1) bs).length := by
    have := congrArg List.length hc; simpa using this
  have : bs.length - (leftoverOf (bs.length + 1) bs).length = c.length := by omega
  rw [this]
  conv => lhs; arg 1; rw [hc]
  rw [List.take_left']
  · exact hc.symm
  · rfl

/-- **What holds**: if no reader future is dropped while it holds progress, the restarting
readers interpret exactly the bytes of the stream. -/
theorem effective_eq_whole : ∀ (persist : Bool) (ps : List Piece) (done carry : Bytes),
    (persist = true ∨ TearFree ps carry) → effectiveFrom persist ps done carry = done ++ carry ++ whole ps := by
  intro persist ps
  induction ps with
  | nil => intro done carry _; simp [effectiveFrom, whole]
  | cons p ps ih =>
    intro done carry htf
    simp only [effectiveFrom]
    have hsplit := avail_split (carry ++ p.bytes)
    by_cases hdrop : (!persist && p.otherBranchAfter && !(leftover (carry ++ p.bytes)).isEmpty) = true
    · exfalso
      simp only [Bool.and_eq_true, Bool.not_eq_true', List.isEmpty_eq_false_iff] at hdrop
      rcases htf with hp | htf
      · rw [hp] at hdrop; cases hdrop.1.1
      · simp only [TearFree] at htf
        exact absurd (htf.1 hdrop.1.2) hdrop.2
    · rw [if_neg hdrop]
      rw [ih _ _ (htf.elim Or.inl (fun h => Or.inr (by simp only [TearFree] at h; exact h.2)))]
      simp only [whole, List.map_cons, List.flatten_cons]
      rw [List.append_assoc done, hsplit]
      simp [List.append_assoc]

/-- **The structure the proof rests on**, read from the current source: both control-plane
readers keep their read in progress outside the future the select loop drops. -/
theorem source_keeps_reads_in_progress :
    Generated.CONTROL_READ_PERSISTS_SETTINGS = true ∧ Generated.CONTROL_READ_PERSISTS_CONNECT = true := by decide

/-- **C05 for the select loop**: for every way the peer's bytes on the control stream and on
the session stream are cut into pieces, and whatever other events complete between the pieces,
the streams are interpreted exactly as if every frame had arrived whole with nothing in between. -/
theorem C05_full : FullFor true := by
  intro ps t
  have : effective true ps = whole ps := by
    unfold effective
    rw [effective_eq_whole true ps [] [] (Or.inl rfl)]; simp
  simp [sessionOutcome, controlOutcome, this]

/-- … with the structure the translator read for each of the two streams -/
theorem C05_session_stream (ps : List Piece) (t : Tail) :
    sessionOutcome Generated.CONTROL_READ_PERSISTS_CONNECT ps t = Worker.connectRun (whole ps) t := by
  rw [source_keeps_reads_in_progress.2]; exact (C05_full ps t).1

theorem C05_control_stream (ps : List Piece) (t : Tail) :
    controlOutcome Generated.CONTROL_READ_PERSISTS_SETTINGS ps t = Worker.controlRun (whole ps) t none := by
  rw [source_keeps_reads_in_progress.1]; exact (C05_full ps t).2

/-- **… and the runners decide without awaiting**: `ConnectStream::run` and
`RemoteSettingsStream::run` await nothing but `self.read_frame()`, so between a consumed frame and
the returned decision there is no point at which the select loop could drop the future. -/
theorem source_decides_without_awaiting :
    Generated.CONTROL_DECISION_ATOMIC_SETTINGS = true ∧ Generated.CONTROL_DECISION_ATOMIC_CONNECT = true := by decide

/-- the session stream's outcome as the application gets it — whatever is cut where, whatever
happens between the pieces and whatever else completes while the runner decides -/
theorem C05_session_decision_reported (ps : List Piece) (t : Tail) (otherBranchDuringDecision : Bool) :
    reported Generated.CONTROL_DECISION_ATOMIC_CONNECT otherBranchDuringDecision
      (sessionOutcome Generated.CONTROL_READ_PERSISTS_CONNECT ps t) = Worker.connectRun (whole ps) t := by
  rw [source_decides_without_awaiting.2, C05_session_stream]; rfl

theorem C05_control_decision_reported (ps : List Piece) (t : Tail) (otherBranchDuringDecision : Bool) :
    reported Generated.CONTROL_DECISION_ATOMIC_SETTINGS otherBranchDuringDecision
      (controlOutcome Generated.CONTROL_READ_PERSISTS_SETTINGS ps t).2 = (Worker.controlRun (whole ps) t none).2 := by
  rw [source_decides_without_awaiting.1, C05_control_stream]; rfl

/-- what held even with the reads inside `run`'s future: if no read is dropped while it holds
part of a frame, the outcome is that of the unsegmented stream -/
theorem tear_free_is_harmless_either_way (persist : Bool) (ps : List Piece) (t : Tail) (h : TearFree ps []) :
    sessionOutcome persist ps t = Worker.connectRun (whole ps) t ∧
    controlOutcome persist ps t = Worker.controlRun (whole ps) t none := by
  have : effective persist ps = whole ps := by
    unfold effective
    rw [effective_eq_whole persist ps [] [] (Or.inr h)]; simp
  simp [sessionOutcome, controlOutcome, this]

/-- in particular: without any other event between the pieces the result never depends on
how the peer's bytes are cut into packets -/
theorem segmentation_alone_is_harmless : ∀ (ps : List Piece) (carry : Bytes),
    (∀ p ∈ ps, p.otherBranchAfter = false) → TearFree ps carry := by
  intro ps
  induction ps with
  | nil => intro _ _; trivial
  | cons p ps ih =>
    intro carry h
    refine ⟨fun hp => ?_, ih _ (fun q hq => h q (by simp [hq]))⟩
    rw [h p (by simp)] at hp; cases hp

/-! ### the witness: a close capsule (code 0x01020304, reason "bye") cut after 3 bytes -/

/-- DATA frame carrying the capsule: `00 0a 68 43 07 01 02 03 04 62 79 65` -/
def capsuleFrame : Bytes := [0x00, 0x0a, 0x68, 0x43, 0x07, 0x01, 0x02, 0x03, 0x04, 0x62, 0x79, 0x65]

def tornPieces : List Piece := [⟨capsuleFrame.take 3, true⟩, ⟨capsuleFrame.drop 3, false⟩]

theorem torn_effective : effective false tornPieces = [0x43, 0x07, 0x01, 0x02, 0x03, 0x04, 0x62, 0x79, 0x65] := by decide

theorem whole_reports_close : Worker.connectRun (whole tornPieces) .open_ = some (.appClosed 0x01020304 [0x62, 0x79, 0x65]) := by
  have : whole tornPieces = Frame.write ⟨.data, Capsule.encodeClose 0x01020304 [0x62, 0x79, 0x65], none⟩ ++ [] := by decide
  rw [this]
  exact Props.C04.capsule_reported_exactly _ _ _ _ (by decide) (by decide) (by decide)

theorem torn_never_reports : sessionOutcome false tornPieces .open_ = none := by
  unfold sessionOutcome
  rw [torn_effective]
  -- `43 07 01 …`: type 0x307 (two-byte varint `43 07`), length 1, payload `02`: an unknown frame,
  -- skipped; then `03 04 62 79 65`: type 3, length 4, but only three bytes follow: need more
  have h1 : Frame.read [0x43, 0x07, 0x01, 0x02, 0x03, 0x04, 0x62, 0x79, 0x65] = .unknown [0x03, 0x04, 0x62, 0x79, 0x65] := by decide
  have h2 : Frame.read [0x03, 0x04, 0x62, 0x79, 0x65] = .needMore := by decide
  rw [Worker.connectRun_eq, Ts.readFrame_eq, h1]
  simp only
  rw [Ts.readFrame_eq, h2]
  simp only
  rw [Worker.afterIgnorable_eq, h1]
  simp only
  rw [Worker.afterIgnorable_eq, h2]
  simp [Worker.endOf]

/-- why the second structural fact matters: a runner that awaits before it returns its decision
forgets a complete close capsule when anything else completes meanwhile -/
theorem awaiting_before_deciding_violates :
    Worker.connectRun capsuleFrame .open_ = some (.appClosed 0x01020304 [0x62, 0x79, 0x65]) ∧
    reported false true (sessionOutcome true [⟨capsuleFrame, true⟩] .open_) = none := by
  refine ⟨?_, rfl⟩
  have : whole tornPieces = capsuleFrame := by decide
  rw [← this]; exact whole_reports_close

/-- **Why the structural fact matters**: with the read inside the dropped future the property fails. -/
theorem dropping_reads_violates : ¬ FullFor false := by
  intro h
  have := (h tornPieces .open_).1
  rw [torn_never_reports, whole_reports_close] at this
  cases this

/-! ### non-vacuity: the same capsule, same cut, same event, on the current structure -/
example : sessionOutcome true tornPieces .open_ = some (.appClosed 0x01020304 [0x62, 0x79, 0x65]) := by
  rw [(C05_full tornPieces .open_).1]; exact whole_reports_close

example : TearFree [⟨capsuleFrame.take 3, false⟩, ⟨capsuleFrame.drop 3, false⟩] [] :=
  segmentation_alone_is_harmless _ _ (by decide)
example : TearFree [⟨capsuleFrame, true⟩, ⟨[0x21, 0x00], true⟩] [] :=
  ⟨fun _ => by decide, fun _ => by decide, trivial⟩

end Props.C05
