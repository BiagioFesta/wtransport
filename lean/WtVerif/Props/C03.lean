/-
C03 — Datagram payloads are never altered and the size contract is exact.
-/
import WtVerif.Props.C17
import WtVerif.Driver.WorkerLoop

namespace Props.C03
open Varint Datagram

/-- what the sender hands to QUIC for `(sid, payload)` is read back by the receiver as exactly
that session and that payload: the payload view starts right after the quarter-stream-id
(`payload_offset` exact — no framing byte delivered, nothing truncated) -/
theorem datagram_roundtrip (sid : Nat) (payload : Bytes) (hs : sid < 2^62) (hv : sid % 4 = 0) :
    ∃ d, appRead (appWrite sid payload).quic = some d ∧ d.sessionId = sid ∧ d.payload = payload := by
  obtain ⟨hq, hback⟩ := Props.C17.session_quarter_session sid hs hv
  have hr := Datagram.read_write (Ids.qOfSession sid) payload hq
  refine ⟨App.mk (enc (Ids.qOfSession sid) ++ payload) (enc (Ids.qOfSession sid)).length
      (Ids.sessionOfQ (Ids.qOfSession sid)), ?_, hback, ?_⟩
  · simp [appRead, appWrite, hr]
  · simp [App.payload]

/-- the sender's own view of the datagram it built is the payload it was given -/
theorem written_payload_view (sid : Nat) (payload : Bytes) : (appWrite sid payload).payload = payload := by
  simp [App.payload, appWrite]

/-- never merged or altered: two sends that produce the same QUIC datagram were the same send -/
theorem datagram_injective (s1 s2 : Nat) (p1 p2 : Bytes) (h1 : s1 < 2^62 ∧ s1 % 4 = 0) (h2 : s2 < 2^62 ∧ s2 % 4 = 0)
    (h : (appWrite s1 p1).quic = (appWrite s2 p2).quic) : s1 = s2 ∧ p1 = p2 := by
  obtain ⟨d1, hd1, hs1, hp1⟩ := datagram_roundtrip s1 p1 h1.1 h1.2
  obtain ⟨d2, hd2, hs2, hp2⟩ := datagram_roundtrip s2 p2 h2.1 h2.2
  rw [h] at hd1
  rw [hd1] at hd2
  cases hd2
  exact ⟨hs1.symm.trans hs2, hp1.symm.trans hp2⟩

/-- whatever arrives, the payload handed to the application is a suffix of the QUIC datagram
(nothing invented) and the session id is a valid one -/
theorem received_payload_is_suffix (quic : Bytes) (d : App) (h : appRead quic = some d) :
    ∃ hdr, quic = hdr ++ d.payload ∧ 1 ≤ hdr.length ∧ hdr.length ≤ 8 := by
  obtain ⟨q, hr, _⟩ := appRead_eq_some h
  obtain ⟨c, hc, h1, h8, _⟩ := dec_some_split (read_eq_ok.1 hr).1
  exact ⟨c, hc, h1, h8⟩

/-- quinn refuses a datagram iff header and payload together exceed its limit -/
theorem tooLarge_iff (quicMax sid : Nat) (payload : Bytes) :
    tooLarge quicMax sid payload = true ↔ quicMax < headerSize (Ids.qOfSession sid) + payload.length := by
  simp [tooLarge, appWrite, enc_length, headerSize]

/-- **Size contract**: with `max = max_datagram_size()`, a payload no longer than `max` is never
refused as too large and a longer one always is -/
theorem size_contract (quicMax sid : Nat) (payload : Bytes) (m : Nat)
    (hm : maxDatagramSize (some quicMax) sid = some m) :
    (payload.length ≤ m ↔ tooLarge quicMax sid payload = false) := by
  rw [← Bool.not_eq_true, tooLarge_iff]
  simp only [maxDatagramSize] at hm
  split at hm
  · cases hm
  · cases hm; omega

/-- **Querying the maximum never fails or returns nonsense**: it is either absent (datagrams
unsupported, or a peer limit that does not even fit the header) or at most the QUIC limit —
for every peer limit and every session id (this is the theorem the pinned code violated:
`quic_max - header` underflowed for a peer limit of 1). -/
theorem max_is_sane (quicMax : Option Nat) (sid : Nat) :
    match maxDatagramSize quicMax sid with
    | none => quicMax = none ∨ ∃ q, quicMax = some q ∧ q < headerSize (Ids.qOfSession sid)
    | some m => ∃ q, quicMax = some q ∧ m + headerSize (Ids.qOfSession sid) = q := by
  cases quicMax with
  | none => exact Or.inl rfl
  | some q =>
    simp only [maxDatagramSize]
    by_cases h : q < headerSize (Ids.qOfSession sid)
    · rw [if_pos h]; exact Or.inr ⟨q, rfl, h⟩
    · rw [if_neg h]; exact ⟨q, rfl, by omega⟩

/-- when no room is left for any payload even the empty datagram is too large — consistent
with an absent maximum -/
theorem no_room_means_too_large (quicMax sid : Nat) (payload : Bytes)
    (h : maxDatagramSize (some quicMax) sid = none) : tooLarge quicMax sid payload = true := by
  rw [tooLarge_iff]
  simp only [maxDatagramSize] at h
  split at h
  · omega
  · cases h

/-! ### non-vacuity -/
example : maxDatagramSize (some 1200) 0 = some 1199 ∧ maxDatagramSize (some 0) 0 = none ∧
    maxDatagramSize (some 1) 256 = none ∧ maxDatagramSize none 0 = none := by decide

end Props.C03

/-! ### the driver's datagram path: nothing invented, nothing duplicated, order kept

`Driver/WorkerLoop.lean`: the worker's datagram branch and the bounded queue towards
`receive_datagram`, under every schedule of arrivals, loop turns and reads (including the
structure in which the loop parks on a full queue). Loss happens only below (quinn's own
buffer) — inside the driver every datagram is in exactly one place. -/

namespace Props.C03.Path
open WorkerLoop

/-- datagrams handed to quinn's receive side so far -/
def sentOf (as : List WorkerLoop.Act) : List Nat :=
  as.filterMap fun a => match a with | .peerDgram d => some d | _ => none

/-- every place a datagram can be, oldest first -/
def places (s : St) : List Nat := s.dgRead ++ s.dgQueue ++ s.parked.toList ++ s.dgBacklog

/-- a datagram enters at the end of the last place and only ever moves from the head of one
place to the end of the place before it -/
theorem step_places (s : St) (a : WorkerLoop.Act) : places (step s a) = places s ++ sentOf [a] := by
  cases a with
  | peerDgram d => simp [step, places, sentOf]
  | loopDgram =>
    simp only [step, sentOf, List.filterMap_cons, List.filterMap_nil, List.append_nil]
    cases hp : s.parked with
    | some p => rfl
    | none =>
      cases hb : s.dgBacklog with
      | nil => rfl
      | cons d rest =>
        simp only [Option.isSome_none, Bool.false_eq_true, if_false]
        repeat' split
        all_goals simp [places, hp, hb]
  | appReadDgram =>
    simp only [step, sentOf, List.filterMap_cons, List.filterMap_nil, List.append_nil]
    cases hq : s.dgQueue with
    | nil => rfl
    | cons d rest => cases hp : s.parked <;> simp [places, hq, hp]
  | _ =>
    simp only [step, sentOf, List.filterMap_cons, List.filterMap_nil, List.append_nil]
    repeat' split
    all_goals rfl

theorem run_places (s : St) (as : List WorkerLoop.Act) : places (run s as) = places s ++ sentOf as := by
  induction as generalizing s with
  | nil => simp [run, sentOf]
  | cons a as ih =>
    rw [show run s (a :: as) = run (step s a) as from rfl, ih, step_places, List.append_assoc]
    exact congrArg _ List.filterMap_append.symm

/-- **Conservation, in order**: after any schedule, what the application has read, followed by
what the queue, a parked handler and quinn still hold, is exactly the sequence of datagrams that
arrived — so what was read is a prefix of it: nothing invented, nothing twice, nothing merged. -/
theorem datagram_path_conserves (cap : Nat) (awaitFree : Bool) (as : List WorkerLoop.Act) :
    places (run (init cap awaitFree) as) = sentOf as :=
  run_places (init cap awaitFree) as

theorem read_datagrams_are_a_prefix_of_the_arrivals (cap : Nat) (awaitFree : Bool) (as : List WorkerLoop.Act) :
    (run (init cap awaitFree) as).dgRead <+: sentOf as := by
  rw [← datagram_path_conserves cap awaitFree as]
  simp only [places, List.append_assoc]
  exact List.prefix_append _ _

/-- the queue is within the capacity, and full while the loop is parked -/
def QueueInv (cap : Nat) (s : St) : Prop :=
  s.cap = cap ∧ s.dgQueue.length ≤ cap ∧ (s.parked.isSome = true → s.dgQueue.length = cap)

/-- the handler parks only when it finds no slot, and the read that frees a slot hands it to the
parked datagram -/
theorem step_queue_inv {cap : Nat} {s : St} (h : QueueInv cap s) (a : WorkerLoop.Act) :
    QueueInv cap (step s a) := by
  have ⟨hc, h1, h2⟩ := h
  cases a with
  | loopDgram =>
    simp only [step]
    split; · exact h
    rename_i hnp
    split; · exact h
    split
    · exact ⟨hc, by simp only [List.length_append, List.length_singleton]; omega, fun hp => absurd hp hnp⟩
    split
    · exact h
    · exact ⟨hc, h1, fun _ => by dsimp only; omega⟩
  | appReadDgram =>
    simp only [step]
    split; · exact h
    rename_i d rest hq
    rw [hq] at h1 h2
    split
    · rename_i p hp
      have := h2 (by rw [hp]; rfl)
      refine ⟨hc, ?_, fun h => nomatch h⟩
      simp only [List.length_append, List.length_cons, List.length_nil] at this ⊢; omega
    · rename_i hp
      exact ⟨hc, Nat.le_of_succ_le h1, fun h => by simp [hp] at h⟩
  | _ =>
    simp only [step]
    repeat' split
    all_goals exact h

/-- the queue towards the application never holds more than its capacity -/
theorem datagram_queue_bounded (cap : Nat) (awaitFree : Bool) (as : List WorkerLoop.Act) :
    (run (init cap awaitFree) as).dgQueue.length ≤ cap ∧
    ((run (init cap awaitFree) as).parked.isSome = true → (run (init cap awaitFree) as).dgQueue.length = cap) :=
  (as.foldlRecOn step (motive := QueueInv cap) ⟨rfl, Nat.zero_le _, by simp [init]⟩
    fun _ ht a _ => step_queue_inv ht a).2

end Props.C03.Path
