/-
C19 — Identities, PEM files and digests round-trip (text formats proved here; certificate
generation, PEM and DER parsing are rcgen / pem / x509-parser and are tied by correspondence).
-/
import WtVerif.Tls
import WtVerif.Props.C10

namespace Props.C19
open DigestText

/-- per-byte facts, all 256 values: decimal and two-digit hex text parse back to the byte, and
consist of digits, so contain no separator, sign, space or bracket -/
theorem byte_text_roundtrip : ∀ b < 256,
    parseU8 10 (dec3 b) = some b ∧ parseU8 16 (hex2 b) = some b ∧
    (∀ c ∈ dec3 b, c.isDigit) ∧ ∀ c ∈ hex2 b, c.isDigit ∨ ('a' ≤ c ∧ c ≤ 'f') := by
  decide +kernel

/-- white space lies below the digits and letters -/
theorem not_space_of_hexdigit {c : Char} (h : c.isDigit ∨ ('a' ≤ c ∧ c ≤ 'f')) : isSpace c = false := by
  have : 48 ≤ c.toNat := h.elim (fun h => (Char.isDigit_iff_toNat.1 h).1)
    fun h => Nat.le_trans (by decide) (UInt32.le_iff_toNat_le.1 h.1)
  simp [isSpace, ← Char.toNat_inj]
  omega

/-- text without white space is its own `trim` -/
theorem trim_eq_self {s : List Char} (h : ∀ c ∈ s, isSpace c = false) : trim s = s := by
  have drop : ∀ t : List Char, (∀ c ∈ t, isSpace c = false) → t.dropWhile isSpace = t := by
    intro t ht
    cases t with
    | nil => rfl
    | cons x r => rw [List.dropWhile_cons, ht x (by simp)]; rfl
  unfold trim
  rw [drop s h, drop s.reverse (by simpa using h), List.reverse_reverse]

theorem byte_text_trim (b : Nat) (hb : b < 256) : trim (dec3 b) = dec3 b ∧ trim (hex2 b) = hex2 b :=
  have h := byte_text_roundtrip b hb
  ⟨trim_eq_self fun c hc => not_space_of_hexdigit (.inl (h.2.2.1 c hc)),
   trim_eq_self fun c hc => not_space_of_hexdigit (h.2.2.2 c hc)⟩

/-- a piece without separator in front of a text joins the first piece of the text -/
theorem splitOn_append {c : Char} {p s h : List Char} {t : List (List Char)} (hp : c ∉ p)
    (hs : splitOn c s = h :: t) : splitOn c (p ++ s) = (p ++ h) :: t := by
  induction p with
  | nil => exact hs
  | cons x r ih =>
    have hx : x ≠ c := fun e => hp (by simp [e])
    simp only [List.cons_append, splitOn, ih fun h => hp (List.mem_cons_of_mem _ h), hx, if_false]

/-- splitting a joined list of separator-free pieces gives the pieces back -/
theorem splitOn_joinWith (c : Char) (parts : List (List Char)) (hne : parts ≠ [])
    (hfree : ∀ p ∈ parts, c ∉ p) : splitOn c (joinWith [c] parts) = parts := by
  induction parts with
  | nil => exact absurd rfl hne
  | cons p t ih =>
    have hp := hfree p (by simp)
    cases t with
    | nil => simpa [joinWith] using splitOn_append hp (s := []) rfl
    | cons q t' =>
      have iht := ih (by simp) fun p' hp' => hfree p' (by simp [hp'])
      have : splitOn c (c :: joinWith [c] (q :: t')) = [] :: q :: t' := by simp [splitOn, iht]
      simpa [joinWith] using splitOn_append hp this

/-- splitting the formatted text gives the two-digit pieces back, for every byte string -/
theorem dotted_hex_pieces (d : Bytes) (hne : d ≠ []) :
    splitOn ':' (fmtDottedHex d) = d.map (fun b => hex2 b.toNat) := by
  refine splitOn_joinWith _ _ (by simpa using hne) fun p hp hc => ?_
  obtain ⟨b, _, rfl⟩ := List.mem_map.1 hp
  have := (byte_text_roundtrip b.toNat b.toNat_lt).2.2.2 ':' hc
  simp at this

/-- the per-piece parse returns the byte -/
theorem hex_piece_parses (b : UInt8) : parseU8 16 (trim (hex2 b.toNat)) = some b.toNat := by
  rw [(byte_text_trim b.toNat b.toNat_lt).2, (byte_text_roundtrip b.toNat b.toNat_lt).2.1]

theorem allSome_map_some (l : List Nat) : allSome (l.map some) = some l := by
  induction l with
  | nil => rfl
  | cons x r ih => simp [allSome, ih]

/-- … so parsing a formatted byte string gives it back exactly when it has the length of a digest -/
theorem parse_fmt_dotted_hex (d : Bytes) (hne : d ≠ []) :
    parseDottedHex (fmtDottedHex d) = if d.length = 32 then some d else none := by
  have hparse : allSome ((splitOn ':' (fmtDottedHex d)).map fun p => parseU8 16 (trim p)) =
      some (d.map (·.toNat)) := by
    rw [dotted_hex_pieces d hne, ← allSome_map_some, List.map_map, List.map_map]
    simp only [Function.comp_def, hex_piece_parses]
  unfold parseDottedHex
  rw [hparse]
  simp [Function.comp_def]

/-- **Dotted-hex digests round-trip**, all 2^256 of them -/
theorem digest_hex_roundtrip (d : Bytes) (hlen : d.length = 32) : parseDottedHex (fmtDottedHex d) = some d := by
  rw [parse_fmt_dotted_hex d (by rintro rfl; cases hlen), if_pos hlen]

/-- a digest in dotted-hex never parses as a bytes-array (it contains `:` and letters or more than
three digits …): `FromStr` therefore reaches the dotted-hex fallback — shown here on the
representative all-`ab` digest; the general statement is exercised by the correspondence -/
theorem from_str_fallback_example :
    fromStr (fmtDottedHex (List.replicate 32 0xab)) = some (List.replicate 32 0xab) := by decide +kernel

/-- bytes-array text of the all-zero, all-0xff and a mixed digest parse back (per-byte decimal
facts are in `byte_text_roundtrip`; the splitting of `", "`-joined text is exercised by the
correspondence for every byte value) -/
theorem bytes_array_examples :
    parseBytesArray (fmtBytesArray (List.replicate 32 0)) = some (List.replicate 32 0) ∧
    parseBytesArray (fmtBytesArray (List.replicate 32 255)) = some (List.replicate 32 255) ∧
    fromStr (fmtBytesArray (List.replicate 32 97)) = some (List.replicate 32 97) := by decide +kernel

/-- malformed digest text is an error value (the parsers are total): wrong length -/
theorem wrong_length_rejected (d : Bytes) (h : d.length ≠ 32) (hne : d ≠ []) :
    parseDottedHex (fmtDottedHex d) = none := by
  rw [parse_fmt_dotted_hex d hne, if_neg h]

/-- the default identity's validity is 14 days and it is accepted by its own pin (C10) -/
theorem default_identity_validity : Generated.TLS_DEFAULT_VALIDITY_DAYS = 14 ∧
    Generated.TLS_DEFAULT_VALIDITY_DAYS ≤ Generated.TLS_SELF_MAX_VALIDITY_DAYS := by decide

end Props.C19
