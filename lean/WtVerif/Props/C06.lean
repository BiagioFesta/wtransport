/-
C06 — Stream termination signals carry their codes end to end.

quinn's stream life-cycle is the specification record (a RESET_STREAM(c) makes the peer's reads
fail with `Reset(c)`, a STOP_SENDING(c) makes its writes / `stopped()` report `Stopped(c)`,
`stopped()` yields `None` only once everything is acknowledged); proved here: every mapping
arm of the WebTransport stream API carries every 62-bit code unchanged and never conflates two
different outcomes.
-/
import WtVerif.Driver.StreamMap
import WtVerif.Driver.StreamLife

namespace Props.C06
open StreamMap

/-- the code conversions are the identity on all 2^62 codes, in both directions, and stay in
range (the `debug_assert!`s / `unsafe from_u64_unchecked` preconditions hold) -/
theorem codes_identity (c : Nat) (h : c < 2^62) : q2w (w2q c) = c ∧ w2q (q2w c) = c ∧ q2w c < 2^62 ∧ w2q c < 2^62 :=
  ⟨rfl, rfl, h, h⟩

/-- a reset with code `c` is reported to the reader as `reset(c)` -/
theorem reset_reported (c : Nat) : ofReadError (.reset (resetCode c)) = .reset c := rfl

/-- a stop with code `c` is reported by `write`, `finish` and `stopped` as `stopped(c)` -/
theorem stop_reported (c : Nat) :
    ofWriteError (.stopped (stopCode c)) = .stopped c ∧ stopped (.stopped (stopCode c)) = .stopped c ∧
    finish (.stopped (stopCode c)) = .error (.stopped c) := ⟨rfl, rfl, rfl⟩

/-- `finish` succeeds exactly when quinn reports that everything was acknowledged -/
theorem finish_ok_iff_acknowledged (s : QStopped) : finish s = .ok () ↔ s = .finished := by
  cases s <;> simp [finish, stopped]

/-- **finish never reports success before the acknowledgement**: whatever quinn's synchronous
`finish()` answered (in particular on a repeated call after a cancelled one), the call is
pending while `stopped()` is, and succeeds iff everything was acknowledged. -/
theorem finish_call_waits (syncErr : Bool) :
    finishCall syncErr none = none ∧
    ∀ s, finishCall syncErr (some s) = some (.ok ()) ↔ s = .finished := by
  have hs : Generated.FINISH_AWAITS_STOPPED = true := by decide
  refine ⟨by simp [finishCall, hs], fun s => ?_⟩
  simp only [finishCall, hs, Bool.not_true, Bool.false_and, Bool.false_eq_true, if_false, Option.map_some,
    Option.some.injEq]
  exact finish_ok_iff_acknowledged s


/-- no arm conflates two outcomes: different quinn results give different API results, except
the two "connection is gone" causes that are deliberately reported alike -/
theorem read_mapping_injective_on_codes (a b : Nat) (h : ofReadError (.reset a) = ofReadError (.reset b)) : a = b := by
  simpa [ofReadError, q2w] using h

theorem write_mapping_injective_on_codes (a b : Nat) (h : ofWriteError (.stopped a) = ofWriteError (.stopped b)) : a = b := by
  simpa [ofWriteError, q2w] using h

theorem stopped_never_confused (c : Nat) :
    stopped (.stopped c) ≠ stopped .finished ∧ stopped (.stopped c) ≠ stopped .connectionLost ∧
    stopped .finished ≠ stopped .connectionLost := by
  simp [stopped]

theorem reset_never_confused (c : Nat) :
    ofReadError (.reset c) ≠ ofReadError .connectionLost ∧ ofReadError (.reset c) ≠ ofReadError .illegalOrderedRead := by
  simp [ofReadError]

end Props.C06

/-! ### the life cycle: a stop is reported with its code by every later call -/

namespace Props.C06.Life
open StreamLife StreamMap

/-- a stream that was stopped with `c` and neither reset by the application nor torn down -/
def StoppedWith (c : Nat) (q : Q) : Prop :=
  q.stopReason = some c ∧ q.resetSent = none ∧ q.released = false ∧ q.lost = false ∧ q.acked = false

/-- events after which the question "what do the calls report" is the property's: calls of the
application other than `reset`, further STOP_SENDING frames, acknowledgements -/
def Considered : Ev → Prop
  | .write | .finish | .stoppedQuery | .peerStop _ | .peerAck => True
  | .reset _ | .connLost => False

/-- a `write` after the application's own `finish()` is refused by quinn as a closed stream
whatever the peer did; every other answer names the stop and its code -/
def Answer (c : Nat) (r : Res) : Prop := saysStopped c r = true ∨ r = .writeErr .notConnected

/-- quinn on a stopped stream: `write` names the stop unless the application has finished the
stream itself -/
theorem qWrite_stopped {c : Nat} {q : Q} (h : StoppedWith c q) :
    qWrite q = some (if q.finished then .closedStream else .stopped c) := by
  obtain ⟨h1, h2, h3, h4, _⟩ := h
  cases hf : q.finished <;> simp [qWrite, h1, h2, h3, h4, hf]

/-- … and `stopped()` names it in any case -/
theorem qStopped_stopped {c : Nat} {q : Q} (h : StoppedWith c q) : qStopped q = some (.stopped c) := by
  obtain ⟨h1, _, h3, h4, _⟩ := h
  simp [qStopped, h1, h3, h4]

theorem step_stopped (c : Nat) (q : Q) (e : Ev) (h : StoppedWith c q) (he : Considered e) :
    StoppedWith c (step false q e).1 ∧ Answer c (step false q e).2 := by
  cases e with
  | write =>
    simp only [step, qWrite_stopped h]
    cases q.finished
    · exact ⟨h, .inl (by simp [saysStopped, ofWriteError, q2w])⟩
    · exact ⟨h, .inr rfl⟩
  | finish =>
    -- `finish()` at most marks the stream finished, which `StoppedWith` does not look at
    have h' : StoppedWith c (if q.released || q.resetSent.isSome || q.finished then q
        else { q with finished := true }) := by
      split <;> exact h
    simp only [step, qStopped_stopped h']
    exact ⟨h', .inl (by simp [saysStopped, StreamMap.finish, stopped, q2w])⟩
  | stoppedQuery =>
    simp only [step, qStopped_stopped h]
    exact ⟨h, .inl (by simp [saysStopped, stopped, q2w])⟩
  | peerStop c' =>
    -- a second STOP_SENDING does not replace the first
    simp only [step, h.1, Option.isSome_some, Bool.or_true, if_true]
    exact ⟨h, .inl rfl⟩
  | peerAck =>
    -- an acknowledgement releases nothing of a stream that is stopped and not reset
    simp only [step, h.1, h.2.1, Option.isSome_none, Option.isNone_some, Bool.and_false, Bool.false_eq_true,
      if_false]
    exact ⟨h, .inl rfl⟩
  | reset c' => exact he.elim
  | connLost => exact he.elim

/-- **A stop is sticky**: once the peer has stopped the stream with `c`, every later `write`,
`finish` and `stopped()` of the application — in any number and order, with acknowledgements
and repeated STOP_SENDING frames arriving in between — reports `stopped(c)`; the only other
answer there is is quinn's refusal of a `write` after the application's own `finish()`. -/
theorem stop_is_sticky (c : Nat) (es : List Ev) (q : Q) (h : StoppedWith c q) (hes : ∀ e ∈ es, Considered e) :
    ∀ r ∈ (run false q es).2, Answer c r := by
  induction es generalizing q with
  | nil => intro r hr; simp [run] at hr
  | cons e es ih =>
    intro r hr
    obtain ⟨hq, ha⟩ := step_stopped c q e h (hes e List.mem_cons_self)
    simp only [run, List.mem_cons] at hr
    rcases hr with hr | hr
    · rw [hr]; exact ha
    · exact ih _ hq (fun e' he' => hes e' (List.mem_cons_of_mem _ he')) r hr

/-- before its own `finish()` the application's `write` names the stop and its code -/
theorem write_reports_the_stop (c : Nat) (q : Q) (h : StoppedWith c q) (hf : q.finished = false) :
    (step false q .write).2 = .writeErr (.stopped c) := by
  simp [step, qWrite_stopped h, hf, ofWriteError, q2w]

/-- a stop that arrives on a live stream puts it into that state, whatever was written before -/
theorem peer_stop_enters (c : Nat) (q : Q) (h : q.stopReason = none ∧ q.resetSent = none ∧ q.released = false ∧
    q.lost = false ∧ q.acked = false) : StoppedWith c (step false q (.peerStop c)).1 := by
  obtain ⟨h1, h2, h3, h4, h5⟩ := h
  simp [step, h1, h2, h3, h4, h5, StoppedWith]

/-- **The wrapper adds no transition of its own**, read from the current source: each method of
`QuicSendStream` / `QuicRecvStream` invokes its own quinn operation and nothing else (`finish`:
`finish` then `stopped`). -/
theorem source_wrappers_pass_through :
    Generated.SEND_WRAPPER_CALLS = [("write", ["0.write"]), ("write_all", ["0.write_all"]),
      ("finish", ["0.finish", "stopped"]), ("set_priority", ["0.set_priority"]), ("priority", ["0.priority"]),
      ("stopped", ["0.stopped"]), ("reset", ["0.reset"]), ("id", ["0.id"]), ("quic_stream", []), ("quic_stream_mut", [])] ∧
    Generated.RECV_WRAPPER_CALLS = [("read", ["0.read"]), ("read_exact", ["0.read_exact"]), ("stop", ["0.stop"]),
      ("id", ["0.id"]), ("quic_stream", []), ("quic_stream_mut", [])] := ⟨rfl, rfl⟩

/-- why it matters: a wrapper whose write path answers a stop by resetting the stream loses the
code one round trip later — `write` turns into NotConnected, `stopped()` into Closed and
`finish()` succeeds on a stream the peer refused -/
theorem reset_on_stop_loses_the_code :
    (run true { stopReason := some 7 } [.write, .peerAck, .write, .stoppedQuery, .finish]).2 =
      [.writeErr (.stopped 7), .none, .writeErr .notConnected, .stoppedIs .closed, .finishOk] ∧
    (run false { stopReason := some 7 } [.write, .peerAck, .write, .stoppedQuery, .finish]).2 =
      [.writeErr (.stopped 7), .none, .writeErr (.stopped 7), .stoppedIs (.stopped 7), .finishErr (.stopped 7)] := by decide

/-! non-vacuity: a live stream, data written, stopped with the largest code -/
example : StoppedWith (2^62 - 1) (step false {} (.peerStop (2^62 - 1))).1 :=
  peer_stop_enters _ _ ⟨rfl, rfl, rfl, rfl, rfl⟩

end Props.C06.Life
