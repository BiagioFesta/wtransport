/-
C08 — Every peer-opened stream is delivered exactly once at any acceptance pace.

An invariant by induction over ALL action sequences of the hand-off pipeline: peer opens,
worker accepts, preamble tasks finishing or failing, application accepts, and cancellations of
pending accept calls, in any order and number. (Atomicity of tokio's `mpsc::Receiver::recv`
and of quinn's `accept_*` under cancellation is assumed: they are documented cancel-safe.)
-/
import WtVerif.Driver.Handoff

namespace Props.C08
open Handoff

/-- taking a member out of a list lowers its own count by one and no other -/
theorem count_erase_add {α} [BEq α] [LawfulBEq α] {a : α} {l : List α} (h : a ∈ l) (x : α) :
    l.count x = (l.erase a).count x + if a == x then 1 else 0 := by
  rw [(List.perm_cons_erase h).count_eq x, List.count_cons]

theorem init_inv (cap : Nat) (stalled : List Nat) (rf : Bool) : Conserved (init cap stalled rf) := by
  simp [Handoff.Conserved, init]

/-- a preamble task ends without handing its stream over (`taskIoErr`, `taskTimeout`) -/
theorem drop_inv {s : St} {id : Nat} (h : Conserved s) (hm : id ∈ s.tasks) :
    Conserved { s with tasks := s.tasks.erase id, dropped := id :: s.dropped } := by
  obtain ⟨hc, hnd, hq, hrf⟩ := h
  refine ⟨fun x => ?_, hnd, hq, fun hr => ?_⟩
  · have := hc x; have := count_erase_add hm x
    simp only [List.count_cons]; omega
  · exact Nat.le_trans (Nat.add_le_add_right List.length_erase_le _) (hrf hr)

/-- Every transition that changes anything moves one id from one place to the next (or, for
`peerOpen`, puts a fresh one into `opened` and `backlog`): for each `x` the count that one list
loses another gains. The guards of `workerAccept` and `taskDone` are what keeps the lengths
within `cap`. -/
theorem step_inv (s : St) (a : Act) (h : Conserved s) : Conserved (step s a) := by
  have ⟨hc, hnd, hq, hrf⟩ := h
  cases a with
  | peerOpen id =>
    simp only [step]; split
    · exact h
    · rename_i hni
      refine ⟨fun x => ?_, ?_, hq, hrf⟩
      · have := hc x; simp only [List.count_append]; omega
      · exact List.nodup_append.2 ⟨hnd, List.nodup_cons.2 ⟨List.not_mem_nil, .nil⟩,
          fun a ha b hb e => hni (List.mem_singleton.1 hb ▸ e ▸ ha)⟩
  | workerAccept =>
    simp only [step]; split
    · exact h
    · rename_i id rest heq
      split
      · rename_i hroom
        refine ⟨fun x => ?_, hnd, hq, fun hr => ?_⟩
        · have := hc x; simp only [heq, List.count_cons] at this ⊢; omega
        · have := hroom.resolve_left (by simp [show s.reserveFirst = true from hr])
          simp only [List.length_cons]; omega
      · exact h
  | taskDone id =>
    simp only [step]; split
    · rename_i hm
      obtain ⟨hm, _, hroom⟩ := hm
      have := List.length_erase_of_mem hm; have := List.length_pos_of_mem hm
      refine ⟨fun x => ?_, hnd, ?_, fun hr => ?_⟩
      · have := hc x; have := count_erase_add hm x
        simp only [List.count_append, List.count_singleton]; omega
      · simp only [List.length_append, List.length_singleton]
        rcases hroom with hr | hlt
        · have := hrf hr; omega
        · omega
      · have := hrf hr; simp only [List.length_append, List.length_singleton]; omega
    · exact h
  | taskIoErr id =>
    simp only [step]; split
    · rename_i hm; exact drop_inv h hm
    · exact h
  | taskTimeout id =>
    simp only [step]; split
    · rename_i hm; exact drop_inv h hm.2
    · exact h
  | appRecv =>
    simp only [step]; split
    · exact h
    · rename_i id rest heq
      rw [heq] at hq hrf
      refine ⟨fun x => ?_, hnd, Nat.le_of_succ_le hq, fun hr => Nat.le_of_succ_le (hrf hr)⟩
      have := hc x; simp only [heq, List.count_cons] at this ⊢; omega
  | appCancel => exact h

/-- the invariant holds in every reachable state, for every schedule -/
theorem run_inv (s : St) (as : List Act) (h : Conserved s) : Conserved (run s as) :=
  as.foldlRecOn step h fun s hs a _ => step_inv s a hs

/-- **Exactly once**: for every schedule (any acceptance pace, any number of cancelled and
reissued accept calls, streams failing at any point), no stream is returned twice, none is
invented, and a returned stream is not simultaneously anywhere else in the pipeline. -/
theorem delivered_exactly_once (cap : Nat) (stalled : List Nat) (rf : Bool) (as : List Act) (x : Nat) :
    let s := run (init cap stalled rf) as
    s.delivered.count x ≤ 1 ∧ (x ∈ s.delivered → x ∈ s.opened) ∧
    (x ∈ s.delivered → x ∉ s.backlog ∧ x ∉ s.tasks ∧ x ∉ s.queue ∧ x ∉ s.dropped) := by
  intro s
  obtain ⟨hc, hnd, _⟩ : Conserved s := run_inv _ as (init_inv cap stalled rf)
  have h1 := List.nodup_iff_count.mp hnd x
  have h2 := hc x
  -- membership is a positive count, and the counts of `x` add up to at most one
  simp only [← List.count_pos_iff]
  omega

/-- **None lost**: every opened stream is, at every moment, in exactly one of: backlog, a
preamble task, the queue, delivered, dropped because the peer reset it. -/
theorem none_lost (cap : Nat) (stalled : List Nat) (rf : Bool) (as : List Act) (x : Nat)
    (hx : x ∈ (run (init cap stalled rf) as).opened) :
    let s := run (init cap stalled rf) as
    s.backlog.count x + s.tasks.count x + s.queue.count x + s.delivered.count x + s.dropped.count x = 1 := by
  intro s
  obtain ⟨hc, hnd, _⟩ : Conserved s := run_inv _ as (init_inv cap stalled rf)
  have h1 := List.nodup_iff_count.mp hnd x
  have h2 := hc x
  have h3 : 0 < s.opened.count x := List.count_pos_iff.mpr hx
  omega

/-- **The structure the model's action set rests on**, read from the current source: nothing in
the driver is time-based — a preamble task ends only when its preamble is complete or its
stream fails, however late the peer's bytes come. -/
theorem source_driver_has_no_timers : Generated.DRIVER_TIMER_FREE = true := by decide

/-- … and nothing in the driver limits the peer's streams across kinds: the unidirectional and the
bidirectional pipeline are two independent instances of the model (own backlog, own tasks, own
queue), so what waits in one never keeps the other from delivering. -/
theorem source_kinds_share_no_limiter : Generated.DRIVER_SEMAPHORE_FREE = true := by decide

/-- `step` never touches the parameters of the pipeline -/
theorem step_params (s : St) (a : Act) :
    (step s a).cap = s.cap ∧ (step s a).stalled = s.stalled ∧
    (step s a).reserveFirst = s.reserveFirst ∧ (step s a).timers = s.timers := by
  unfold step
  repeat' split
  all_goals exact ⟨rfl, rfl, rfl, rfl⟩

theorem run_params (s : St) (as : List Act) :
    (run s as).cap = s.cap ∧ (run s as).stalled = s.stalled ∧
    (run s as).reserveFirst = s.reserveFirst ∧ (run s as).timers = s.timers := by
  refine as.foldlRecOn step (motive := fun t => t.cap = s.cap ∧ t.stalled = s.stalled ∧
    t.reserveFirst = s.reserveFirst ∧ t.timers = s.timers) ⟨rfl, rfl, rfl, rfl⟩ fun t ht a _ => ?_
  obtain ⟨h1, h2, h3, h4⟩ := step_params t a
  rw [h1, h2, h3, h4]; exact ht

/-- without timers only the I/O error of a stream puts it into `dropped` -/
theorem step_dropped (s : St) (a : Act) (ht : s.timers = false) (x : Nat) (hx : x ∈ (step s a).dropped) :
    x ∈ s.dropped ∨ a = .taskIoErr x := by
  cases a with
  | taskIoErr id =>
    simp only [step] at hx
    split at hx
    · exact (List.mem_cons.1 hx).symm.imp_right fun (e : x = id) => by rw [e]
    · exact .inl hx
  | taskTimeout id => rw [show step s (.taskTimeout id) = s by simp [step, ht]] at hx; exact .inl hx
  | _ =>
    -- the other actions leave `dropped` as it is
    refine .inl ?_
    simp only [step] at hx
    repeat' split at hx
    all_goals exact hx

/-- **No stream is given up on**: in a driver without timers, under every schedule, a stream
leaves the pipeline undelivered only through an I/O error of that very stream (the peer reset
it, or the connection ended) — never because its preamble took long. -/
theorem dropped_only_on_its_own_io_error (cap : Nat) (stalled : List Nat) (rf : Bool) (as : List Act) (x : Nat)
    (hx : x ∈ (run (init cap stalled rf false) as).dropped) : Act.taskIoErr x ∈ as := by
  refine (as.foldlRecOn step (motive := fun s => s.timers = false ∧ (x ∈ s.dropped → Act.taskIoErr x ∈ as))
    ⟨rfl, by simp [init]⟩ fun s ⟨ht, hs⟩ a ha => ?_).2 hx
  exact ⟨(step_params s a).2.2.2.trans ht, fun h => (step_dropped s a ht x h).elim hs fun e => e ▸ ha⟩

/-- … with what the translator read from the source: the current driver has no timers -/
theorem C08_none_given_up (cap : Nat) (stalled : List Nat) (rf : Bool) (as : List Act) (x : Nat)
    (hx : x ∈ (run (init cap stalled rf (!Generated.DRIVER_TIMER_FREE)) as).dropped) : Act.taskIoErr x ∈ as := by
  rw [source_driver_has_no_timers] at hx
  exact dropped_only_on_its_own_io_error cap stalled rf as x hx

/-- why it matters: with a deadline on the preamble a stream whose bytes come late is dropped
although nothing ever failed on it -/
theorem preamble_deadline_loses_streams :
    (run (init 4 [] false true) [.peerOpen 2, .workerAccept, .taskTimeout 2, .taskDone 2, .appRecv]).dropped = [2] ∧
    (run (init 4 [] false true) [.peerOpen 2, .workerAccept, .taskTimeout 2, .taskDone 2, .appRecv]).delivered = [] ∧
    (run (init 4 [] false false) [.peerOpen 2, .workerAccept, .taskTimeout 2, .taskDone 2, .appRecv]).delivered = [2] := by decide

/-- a cancelled accept call changes nothing (it can be reissued) -/
theorem cancel_is_noop (s : St) : step s .appCancel = s := rfl

/-- the queue towards the application never holds more than its capacity -/
theorem capacity_respected (cap : Nat) (stalled : List Nat) (rf : Bool) (as : List Act) :
    (run (init cap stalled rf) as).queue.length ≤ cap := by
  have h := (run_inv _ as (init_inv cap stalled rf)).2.2.1
  rwa [(run_params _ as).1] at h

/-- the capacities in the source: both queues of a kind are equally large -/
theorem queue_capacities :
    0 < Generated.CAP_READY_UNI_H3 ∧ 0 < Generated.CAP_READY_UNI_WT ∧ 0 < Generated.CAP_READY_BI_H3 ∧
    0 < Generated.CAP_READY_BI_WT ∧ 0 < Generated.CAP_READY_DATAGRAMS := by decide

/-! ### non-vacuity: 3 streams, capacity 1, cancellations in between -/
example : (run (init 1 []) [.peerOpen 0, .peerOpen 4, .appCancel, .workerAccept, .workerAccept, .taskDone 0, .appCancel,
    .appRecv, .workerAccept, .taskDone 4, .appRecv]).delivered = [4, 0] := by decide

end Props.C08
