/-
C11 — Decoding untrusted bytes is total, bounded and invariant-preserving.

Every decoder of the model is a total function into an enumerated result (value / need-more /
error): there is no trap constructor to reach. What is proved here: the loops make progress
(Lean's termination checker accepts `Ts.readFrame`, `Settings.withPayload`,
`Worker.connectRun`, … only because every turn consumes input — `Frame.read_unknown_lt`,
`Ts.readFrame_frame_lt`, `Varint.dec_some_split`), returned values respect their types'
invariants, nothing larger than the parse limit is buffered, and the QPACK prefix integers —
the one place with machine arithmetic that can overflow — are exact or an error, never a
silently wrong value.
-/
import WtVerif.Lemmas.Worker
import WtVerif.Lemmas.Ids
import WtVerif.Spec.H3
import WtVerif.Props.C04
import WtVerif.Lemmas.QpackBound

namespace Props.C11
open Varint

/-- every decoded variable-length integer is below 2^62 (the `unsafe from_u64_unchecked` in
`BufferReader::get_varint` and its `debug_assert!` are justified for every input) and at least
one byte, at most eight, were consumed -/
theorem varint_in_range (bs : Bytes) (v : Nat) (rest : Bytes) (h : dec bs = some (v, rest)) :
    v < 2^62 ∧ rest.length < bs.length ∧ bs.length ≤ rest.length + 8 := by
  obtain ⟨c, hc, h1, h8, hlt⟩ := dec_some_split h
  refine ⟨dec_lt h, hlt, ?_⟩
  rw [hc]; simp; omega

/-- the two shapes of a returned frame: a WebTransport signal with the session id it announced, or a frame
of another kind with a payload within the parse limit -/
theorem frame_shape {bs rest : Bytes} {f : Frame} (h : Frame.read bs = .frame f rest) :
    (∃ s, f = ⟨.webtransport, [], some s⟩ ∧ s % 4 = 0 ∧ s < 2^62) ∨
    (f.kind ≠ .webtransport ∧ f.sessionId = none ∧ f.payload.length ≤ Frame.maxParsePayload) := by
  unfold Frame.read Frame.skipPayload at h
  split at h
  · cases h
  -- the type is there; in each arm (unknown type, WebTransport signal, other kind) so must be the second varint
  · split at h <;> split at h <;> try cases h
    · split at h <;> cases h
    · next sid _ hd =>
      split at h <;> cases h
      next hs =>
      obtain ⟨hv, rfl⟩ := Ids.sessionIdTry_eq_some.1 hs
      exact .inl ⟨_, rfl, hv, dec_lt hd⟩
    · next hne _ _ len r2 _ =>
      -- over the limit the frame is skipped or refused, within it returned once it is complete
      by_cases hbig : len > Frame.maxParsePayload
      · rw [if_pos hbig] at h; repeat' split at h
        all_goals cases h
      · rw [if_neg hbig] at h; split at h <;> cases h
        exact .inr ⟨hne, rfl, by simp only [List.length_take]; omega⟩

/-- a frame that is returned: its payload is within the parse limit (nothing larger is ever
buffered for a frame), a WebTransport signal carries a valid session id below 2^62, and input
was consumed -/
theorem frame_invariants (bs rest : Bytes) (f : Frame) (h : Frame.read bs = .frame f rest) :
    f.payload.length ≤ 4096 ∧ rest.length < bs.length ∧
    (f.kind = .webtransport → ∃ s, f.sessionId = some s ∧ s % 4 = 0 ∧ s < 2^62) ∧
    (f.kind ≠ .webtransport → f.sessionId = none) := by
  rcases frame_shape h with ⟨s, rfl, hv, hlt⟩ | ⟨hk, hs, hp⟩
  · exact ⟨by simp, Frame.read_frame_lt h, fun _ => ⟨s, rfl, hv, hlt⟩, fun hne => absurd rfl hne⟩
  · exact ⟨hp, Frame.read_frame_lt h, fun hk' => absurd hk' hk, fun _ => hs⟩

/-- a stream header that is returned carries a valid session id exactly when it is a
WebTransport stream -/
theorem header_invariants (bs rest : Bytes) (hd : StreamHeader) (h : StreamHeader.read bs = .header hd rest) :
    rest.length < bs.length ∧
    (hd.kind = .webtransport → ∃ s, hd.sessionId = some s ∧ s % 4 = 0 ∧ s < 2^62) := by
  unfold StreamHeader.read at h
  -- of the six leaves of `read` two return a header
  repeat' split at h
  all_goals try cases h
  · obtain ⟨hv, rfl⟩ := Ids.sessionIdTry_eq_some.1 ‹Ids.sessionIdTry _ = some _›
    have h1 := varint_in_range _ _ _ ‹dec bs = _›
    have h2 := varint_in_range _ _ _ ‹dec _ = some (_, rest)›
    exact ⟨by omega, fun _ => ⟨_, rfl, hv, h2.1⟩⟩
  · exact ⟨(varint_in_range _ _ _ ‹dec bs = _›).2.1, fun hk => absurd hk ‹_ → False›⟩

/-- an accepted HTTP/3 datagram names a quarter stream id of at most 2^60 − 1 and its payload is
a suffix of the QUIC datagram (no byte invented) -/
theorem datagram_invariants (quic : Bytes) (q : Nat) (p : Bytes) (h : Datagram.read quic = .ok q p) :
    q ≤ 2^60 - 1 ∧ ∃ c, quic = c ++ p ∧ 1 ≤ c.length ∧ c.length ≤ 8 := by
  obtain ⟨hd, hq⟩ := Datagram.read_eq_ok.1 h
  obtain ⟨c, hc, h1, h8, _⟩ := dec_some_split hd
  exact ⟨Ids.qMax_eq ▸ hq, c, hc, h1, h8⟩

/-! ### QPACK prefix integers: exact or an error -/

theorem decodeIntCont_exact : ∀ (bs : Bytes) (value power v : Nat) (r : Bytes),
    Qpack.decodeIntCont bs value power = .ok (v, r) →
    Spec.prefixIntCont bs value power = some (v, r) ∧ v < 2^64 := by
  intro bs
  induction bs with
  | nil => intro value power v r h; cases h
  | cons b t ih =>
    intro value power v r h
    have := b.toNat_lt
    rw [Qpack.decodeIntCont_cons] at h
    simp only [Spec.prefixIntCont]
    split at h
    · rename_i hfit
      split at h
      · cases h
        exact ⟨by rw [if_pos (by omega)], hfit.2⟩
      · rw [if_neg (by omega)]
        exact ih _ _ _ _ h
    · cases h

/-- **No silently wrong value**: whenever the decoder returns an integer, it is the value RFC
7541 §5.1 assigns to those bytes (computed without any bound), it fits the machine word, and
the same bytes were consumed. -/
theorem qpack_int_exact (n : Nat) (bs : Bytes) (flags v : Nat) (r : Bytes) (hn : 1 ≤ n ∧ n ≤ 8)
    (h : Qpack.decodeInt n bs = .ok (flags, v, r)) :
    Spec.prefixInt n bs = some (v, r) ∧ v < 2^64 := by
  obtain ⟨b, t, rfl, ⟨hne, rfl, rfl⟩ | ⟨heq, hc⟩⟩ := Qpack.decodeInt_ok h
  · have : b.toNat % 2 ^ n < 2 ^ n := Nat.mod_lt _ (Nat.two_pow_pos n)
    have : 2 ^ n ≤ 2 ^ 8 := Nat.pow_le_pow_right (by decide) hn.2
    simp only [Spec.prefixInt]
    exact ⟨by rw [if_pos (by omega)], by omega⟩
  · simp only [Spec.prefixInt]
    rw [if_neg (by omega)]
    exact decodeIntCont_exact _ _ _ _ _ hc

/-- **Too large is an error**: if the integer those bytes denote does not fit 64 bits, the
decoder fails — whatever the length of the continuation run (this is the theorem the pinned
code violated: `ff 80×10 01` trapped in debug builds and returned a wrong index in release). -/
theorem qpack_int_too_large_is_error (n : Nat) (bs : Bytes) (v : Nat) (r : Bytes) (hn : 1 ≤ n ∧ n ≤ 8)
    (hs : Spec.prefixInt n bs = some (v, r)) (hbig : 2^64 ≤ v) :
    ∃ e, Qpack.decodeInt n bs = .error e := by
  cases hd : Qpack.decodeInt n bs with
  | error e => exact ⟨e, rfl⟩
  | ok x =>
    obtain ⟨f, v', r'⟩ := x
    have := qpack_int_exact n bs f v' r' hn hd
    rw [hs] at this
    simp only [Option.some.injEq, Prod.mk.injEq] at this
    omega

/-- a string literal is returned only if the announced length was fully present (no read
beyond the input) and the bytes are valid UTF-8 -/
theorem qpack_string_bounded (n : Nat) (bs s rest : Bytes) (h : Qpack.decodeString n bs = .ok (s, rest)) :
    Utf8.valid s = true ∧ rest.length ≤ bs.length := by
  obtain ⟨_, _, _, _, _, _, hu, _⟩ := Qpack.decodeString_ok h
  exact ⟨hu, Nat.le_of_lt (Qpack.decodeString_bound h).1⟩

/-! ### non-vacuity: the input that broke the pinned code -/
example : Qpack.decodeInt 8 ([0xff] ++ List.replicate 10 0x80 ++ [0x01]) = .error .integerOverflow := by rfl
example : Spec.prefixInt 8 ([0xff] ++ List.replicate 10 0x80 ++ [0x01]) = some (255 + 2^70, []) := by decide
example : Qpack.decodeInt 6 [0xff, 0x22] = .ok (3, 97, []) := by rfl

/-- **Bounded output**: whatever bytes arrive, a field section the decoder accepts yields a header
map whose names and values together are at most 84 times as long as the input (one static-table
row of at most 76 bytes per line, eight symbols per Huffman-coded byte): no amplification beyond a
constant factor, and frames (hence sections) are at most 4096 bytes (`frame_invariants`). -/
theorem qpack_output_bounded (bs : Bytes) (m : List Qpack.Field) (h : Qpack.decode bs = .ok m) :
    Qpack.total m ≤ 84 * bs.length := by
  have := Qpack.decode_bound h
  rw [Qpack.maxRow_value] at this
  exact this

end Props.C11
